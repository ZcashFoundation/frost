/-
  Frost.Proofs.Basic — lemmas shared by the property files that belong to no single protocol
  step: sums over lists, `a • G = b • G ↔ a = b`, what `SecretShare::verify` computes, and the
  example suite over ℚ of the non-vacuity examples.  It passes on Frost.Proofs.Lagrange and
  Frost.Proofs.Maps (and the Mathlib modules under them) to the property files.
-/
import Frost.Model.Keys
import Frost.Proofs.Lagrange
import Frost.Proofs.Maps

set_option linter.unusedSectionVars false

namespace Frost

variable {F E : Type} [Field F] [DecidableEq F] [AddCommGroup E] [Module F E] [DecidableEq E]

theorem sum_map_sum_comm {M : Type} [AddCommMonoid M] {α β : Type} (l₁ : List α) (l₂ : List β)
    (f : α → β → M) :
    (l₁.map fun i => (l₂.map fun j => f i j).sum).sum =
      (l₂.map fun j => (l₁.map fun i => f i j).sum).sum := by
  induction l₁ with
  | nil => simp
  | cons a r ih => simp [ih, List.sum_map_add]

theorem smul_inj_of_ne_zero {G : E} (hG : G ≠ 0) {a b : F} : a • G = b • G ↔ a = b :=
  (smul_left_injective F hG).eq_iff

namespace SecretShare

theorem verify_eq (S : Suite F E) (id s : F) (C : List E) :
    SecretShare.verify S ⟨id, s, C⟩ =
      if s • S.G = vssR C id then
        C.head?.elim (.error .MissingCommitment) fun vk => .ok (vssR C id, vk)
      else .error (.InvalidSecretShare none) := by
  unfold SecretShare.verify
  simp only [evaluateVss_eq, ne_eq, ite_not]
  cases C <;> rfl

theorem verify_of_ne (S : Suite F E) (id s : F) (C : List E) (h : s • S.G ≠ vssR C id) :
    SecretShare.verify S ⟨id, s, C⟩ = .error (.InvalidSecretShare none) := by
  rw [verify_eq, if_neg h]

end SecretShare

/-- a trivially small ciphersuite over ℚ used for non-vacuity examples.  Its `leBytes` is constant,
    so `MsmSound exBase.leBytes` fails and no `SignSession.Ok exBase` exists: the examples built on
    it witness the algebraic side conditions of a theorem, not its session hypothesis. -/
def exBase : Base ℚ ℚ :=
  { ID := [], G := 1, cofactor := 1
    H1 := fun _ => 1, H2 := fun _ => 1, H3 := fun _ => 1
    H4 := fun _ => [], H5 := fun _ => []
    HDKG := fun _ => some 1, HID := fun _ => some 1, Hrand := fun _ => some 1
    encScalar := fun _ => [], decScalar := fun _ => none, scalarLen := 0
    leBytes := fun _ => [], encElem := fun e => if e = 0 then none else some []
    decElem := fun _ => .error .GroupMalformedElement, elemLen := 0
    randomScalar := fun t => some (1, t.drop 1)
    idLt := fun a b => decide (a < b) }

def exSuite : Suite ℚ ℚ := Suite.ofBase exBase

end Frost

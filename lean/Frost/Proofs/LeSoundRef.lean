/-
  Frost.Proofs.LeSoundRef — the encoding law `LeSound` (the only hypothesis left in the
  multiscalar / batch / group-commitment theorems once `MsmSound` is discharged) holds for
  `fun s => natToLE s.val len` over `ZMod q`, for every prime `q ≤ 256^len`.  The reference suites
  run the same expression over their own scalar type `Ref.Fq q`; no theorem relates `Fq q` to
  `ZMod q`, and the primality of the group orders is an instance argument, not a theorem here.
-/
import Frost.Proofs.NafValue
import Frost.Proofs.WireRef
import Mathlib.Algebra.Field.ZMod
import Mathlib.Tactic.NormNum.Prime

namespace Frost
open Frost.Ref

/-- **`LeSound` for the reference encoder**, every prime modulus that fits the byte length. -/
theorem leSound_natToLE (q len : Nat) [Fact q.Prime] (hq : q ≤ 256 ^ len) :
    LeSound (F := ZMod q) (fun s => natToLE s.val len) := by
  have : NeZero q := ⟨(Fact.out : q.Prime).ne_zero⟩
  refine ⟨?_, fun _ _ => by simp [length_natToLE]⟩
  intro s
  have hlt : s.val < 256 ^ len := lt_of_lt_of_le (ZMod.val_lt s) hq
  rw [leNat_eq, leToNat_natToLE, Nat.mod_eq_of_lt hlt, ZMod.natCast_zmod_val]

/-- the size side conditions at the real parameters (the primality of the group orders is a
    `Fact` the caller supplies; it is not needed for the encoding law beyond `q ≠ 0`) -/
example : 2 ^ 252 + 27742317777372353535851937790883648493 ≤ 256 ^ 32 := by norm_num
example : 0xFFFFFFFFFFFFFFFFFFFFFFFFFFFFFFFEBAAEDCE6AF48A03BBFD25E8CD0364141 ≤ 256 ^ 32 := by norm_num
example : 0xFFFFFFFF00000000FFFFFFFFFFFFFFFFBCE6FAADA7179E84F3B9CAC2FC632551 ≤ 256 ^ 32 := by norm_num
example : 2 ^ 446 - 13818066809895115352007386748515426880336692474882178609894547503885 ≤ 256 ^ 57 := by
  decide +kernel

local instance : Fact (Nat.Prime 65537) := ⟨by norm_num⟩

/-- non-vacuity at a concrete prime: the toy field `q = 65537` with 4 little-endian bytes -/
example : LeSound (F := ZMod 65537) (fun s => natToLE s.val 4) :=
  leSound_natToLE 65537 4 (by norm_num)

end Frost

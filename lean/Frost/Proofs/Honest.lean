/-
  Frost.Proofs.Honest — the algebra of honest and deviating signature shares in a
  signing session, for any suite described by `SignSession.OkS`; the versions for the suites
  without hooks (`Ok`, `honest`) are its case `sg = 1`.
-/
import Frost.Proofs.Signing
import Mathlib.Tactic.Module

set_option linter.unusedSectionVars false

namespace Frost

variable {F E : Type} [Field F] [DecidableEq F] [AddCommGroup E] [Module F E] [DecidableEq E]
variable {B : Base F E} {X : SignSession F E} {S : Suite F E} {sg : F}

theorem Base.verifyPrehashed_eq_ok (hcof : B.cofactor ≠ 0) (vk : E) (c : F) (sig : Signature F E) :
    B.verifyPrehashed vk c sig = .ok () ↔ sig.z • B.G = sig.R + c • vk := by
  unfold Base.verifyPrehashed
  rw [Outcome.ite_eq_ok, smul_eq_zero_iff_right hcof, sub_eq_zero, sub_eq_iff_eq_add]

/-- `(Re, z)`, valid for the key `q • G` under the challenge `e`, is valid for `p • G` under `e'`
    iff `e q = e' p` -/
theorem other_key_iff {G : E} (hG : G ≠ 0) (p q e e' z : F) (Re : E)
    (hvalid : z • G = Re + e • (q • G)) :
    z • G = Re + e' • (p • G) ↔ e * q = e' * p := by
  rw [hvalid, add_right_inj, smul_smul, smul_smul, ← sub_eq_zero, ← sub_smul,
    smul_eq_zero_iff_left hG, sub_eq_zero]

namespace SignSession

theorem honestS_smul (s : F → F) (i : F) (G : E) :
    X.honestS sg s i • G =
      sg • (X.d i • G + X.rho i • X.e i • G) + X.c • (X.lam i * s i) • G := by
  unfold honestS; module

theorem shareOkS_iff (s : F → F) (i δ : F) :
    X.shareOkS B sg (s i • B.G) (X.honestS sg s i + δ) i ↔ δ • B.G = 0 := by
  unfold shareOkS
  rw [add_smul, honestS_smul, mul_smul, smul_comm X.c, add_eq_left]

theorem lam_sum (hnd : X.ids.Nodup) (cs : List F) (hlen : cs.length ≤ X.ids.length) :
    (X.ids.map fun i => X.lam i * hornerR cs i).sum = hornerR cs 0 :=
  lagrange_interp_list X.ids hnd cs hlen 0

namespace OkS

theorem sum_honestS (h : X.OkS S sg) (s : F → F) :
    (X.ids.map (X.honestS sg s)).sum • S.G =
      sg • X.R + X.c • (X.ids.map fun i => X.lam i * s i).sum • S.G := by
  simp only [h.R_eq, List.sum_smul, List.smul_sum, List.map_map, Function.comp_def,
    ← List.sum_map_add, honestS_smul]

theorem aggregate_honest (h : X.OkS S sg) (s : F → F)
    (hkey : (X.ids.map fun i => X.lam i * s i).sum • S.G = X.vk)
    (pkp : PublicKeyPackage F E) (hpvk : pkp.vk = X.vk)
    (hvs : ∀ i ∈ X.ids, SMap.get? pkp.vshares i = some (s i • S.G))
    (hmin : ∀ m, pkp.minSigners = some m → m ≤ X.ids.length) (mode : CheaterDetection) :
    aggregateCustom S (X.pkg S.toBase) (X.sharesMap (X.honestS sg s)) pkp mode =
      .ok ⟨X.R, (X.ids.map (X.honestS sg s)).sum⟩ := by
  rw [aggregate_eq h (fun i => s i • S.G) _ pkp hpvk hvs hmin mode, h.sum_honestS, hkey,
    add_sub_cancel_right, sub_self, smul_zero, if_pos rfl]

/-- **The session algebra.**  Signers holding `s i` (verifying shares `s i • G`), group key
    `key • G`, submitted shares `honestᵢ + δᵢ`: the aggregate is released iff
    `c·(Σ λᵢ sᵢ − key) + Σ δᵢ = 0`; otherwise the culprits are the signers with `δᵢ ≠ 0`. -/
theorem aggregate_dev (h : X.OkS S sg) (hG : S.G ≠ 0) (hcof : S.cofactor ≠ 0) (s δ : F → F)
    (key : F) (hvk : X.vk = key • S.G) (pkp : PublicKeyPackage F E) (hpvk : pkp.vk = X.vk)
    (hvs : ∀ i ∈ X.ids, SMap.get? pkp.vshares i = some (s i • S.G))
    (hmin : ∀ m, pkp.minSigners = some m → m ≤ X.ids.length) (mode : CheaterDetection) :
    aggregateCustom S (X.pkg S.toBase) (X.sharesMap fun i => X.honestS sg s i + δ i) pkp mode =
      if X.c * ((X.ids.map fun i => X.lam i * s i).sum - key) + (X.ids.map δ).sum = 0 then
        .ok ⟨X.R, (X.ids.map fun i => X.honestS sg s i + δ i).sum⟩
      else .error (culpritReport X.ids (fun i => decide (δ i ≠ 0)) mode) := by
  have hchk : ((X.ids.map fun i => X.honestS sg s i + δ i).sum • S.G - X.c • X.vk) - sg • X.R =
      (X.c * ((X.ids.map fun i => X.lam i * s i).sum - key) + (X.ids.map δ).sum) • S.G := by
    rw [List.sum_map_add, add_smul, h.sum_honestS, hvk, add_smul, mul_smul, sub_smul, smul_sub]
    abel
  rw [aggregate_eq h (fun i => s i • S.G) _ pkp hpvk hvs hmin mode, hchk]
  simp only [shareOkS_iff, smul_eq_zero, hcof, hG, false_or, or_false]

end OkS

theorem verifyShare_dev (h : X.Ok B) (s : F → F) (i : F) (hi : i ∈ X.ids) (δ : F) :
    verifySignatureShare (Suite.ofBase B) i (s i • B.G) (X.honest s i + δ) (X.pkg B) X.vk = .ok ()
      ↔ δ • B.G = 0 := by
  have := verifySignatureShare_eq (okS_of_ok h) i hi (X.honest s i + δ) (s i • B.G)
  rw [ofBase_toBase] at this
  rw [this, Outcome.ite_eq_ok, ← honestS_one]
  exact shareOkS_iff s i δ

theorem aggregate_honest (h : X.Ok B) (s : F → F)
    (hkey : (X.ids.map fun i => X.lam i * s i).sum • B.G = X.vk)
    (pkp : PublicKeyPackage F E) (hpvk : pkp.vk = X.vk)
    (hvs : ∀ i ∈ X.ids, SMap.get? pkp.vshares i = some (s i • B.G))
    (hmin : ∀ m, pkp.minSigners = some m → m ≤ X.ids.length) (mode : CheaterDetection) :
    aggregateCustom (Suite.ofBase B) (X.pkg B) (X.sharesMap (X.honest s)) pkp mode =
      .ok ⟨X.R, (X.ids.map (X.honest s)).sum⟩ :=
  honestS_one (X := X) ▸ (okS_of_ok h).aggregate_honest s hkey pkp hpvk hvs hmin mode

theorem aggregate_ok_iff_interp (h : X.Ok B) (hG : B.G ≠ 0) (hcof : B.cofactor ≠ 0)
    (s : F → F) (key : F) (hvk : X.vk = key • B.G)
    (pkp : PublicKeyPackage F E) (hpvk : pkp.vk = X.vk)
    (hvs : ∀ i ∈ X.ids, SMap.get? pkp.vshares i = some (s i • B.G))
    (hmin : ∀ m, pkp.minSigners = some m → m ≤ X.ids.length) (mode : CheaterDetection) :
    (∃ σ, aggregateCustom (Suite.ofBase B) (X.pkg B) (X.sharesMap (X.honest s)) pkp mode = .ok σ)
      ↔ X.c * ((X.ids.map fun i => X.lam i * s i).sum - key) = 0 := by
  have := (okS_of_ok h).aggregate_dev hG hcof s (fun _ => 0) key hvk pkp hpvk hvs hmin mode
  simp only [add_zero, List.map_const', List.sum_replicate, smul_zero, honestS_one,
    ofBase_toBase] at this
  rw [this]
  exact Outcome.exists_ite_eq_ok

end SignSession
end Frost

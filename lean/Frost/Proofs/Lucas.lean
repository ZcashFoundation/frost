/-
  Frost.Proofs.Lucas — primality certificates (Lucas / Pratt) checked by the kernel.

  A certificate is a flat table of lines `⟨p, a, [q₁, …, qₖ]⟩`.  A line is accepted when `1 < p`,
  `p - 1` divides a power of `q₁ ⋯ qₖ` (so its prime factors are among the `qᵢ`), `a ^ (p - 1) ≡ 1`
  and `a ^ ((p - 1) / qᵢ) ≢ 1 (mod p)` for every `i` (Lucas' test), and every `qᵢ` is smaller than
  `p` and is itself the `p` of a line of the table (so `2` has the line `⟨2, 1, []⟩`; the order of
  the lines is free).  `Pratt.check_sound`: every `p` of an accepted table is prime.
-/
import Mathlib.NumberTheory.LucasPrimality

namespace Frost.Pratt

/-- `b ^ e % p`, evaluated in 8-bit windows of `e` (the kernel multiplies literals with GMP, so a
step costs the same for a 255-bit number as for a small one).  The fuel only bounds the recursion;
whatever the fuel, the value is `b ^ e % p`. -/
def powW (p b : ℕ) : (fuel e : ℕ) → ℕ
  | 0, e => b ^ e % p
  | fuel + 1, e =>
    bif e.blt 256 then b ^ e % p else powW p b fuel (e / 256) ^ 256 * b ^ (e % 256) % p

theorem powW_eq (p b : ℕ) : ∀ fuel e, powW p b fuel e = b ^ e % p
  | 0, _ => rfl
  | fuel + 1, e => by
    rw [powW, powW_eq p b fuel]
    cases e.blt 256
    · rw [cond_false]
      conv_rhs => rw [← Nat.div_add_mod' e 256, pow_add, pow_mul]
      exact ((Nat.mod_modEq _ p).pow 256).mul_right _
    · rfl

/-- a line `⟨p, a, qs⟩`: `qs` are the prime factors of `p - 1` and `a` is a primitive root mod `p` -/
structure Line where
  p : ℕ
  a : ℕ
  qs : List ℕ

/-- Lucas' test for one line; its prime factors must be smaller `p`s of the table `t` -/
def lineOk (t : List Line) : Line → Bool
  | ⟨p, a, qs⟩ =>
    decide (1 < p) && qs.prod ^ p.log2 % (p - 1) == 0 && powW p a p (p - 1) == 1 &&
      qs.all fun q => decide (q < p) && (t.any fun l => l.p.beq q) && powW p a p ((p - 1) / q) != 1

/-- the whole table: every line passes Lucas' test (the order of the lines is free) -/
def check (t : List Line) : Bool := t.all (lineOk t)

theorem zmod_pow_eq_one {p : ℕ} (hp : 1 < p) (a e : ℕ) :
    (a : ZMod p) ^ e = 1 ↔ a ^ e % p = 1 := by
  have := ZMod.natCast_eq_natCast_iff' (a ^ e) 1 p
  rwa [Nat.cast_pow, Nat.cast_one, Nat.mod_eq_of_lt hp] at this

theorem check_sound {t : List Line} (h : check t = true) : ∀ l ∈ t, l.p.Prime := by
  suffices H : ∀ n, ∀ l ∈ t, l.p = n → n.Prime from fun l hl => H _ l hl rfl
  intro n
  induction n using Nat.strong_induction_on with
  | _ n ih =>
    rintro ⟨p, a, qs⟩ hl rfl
    have h := List.all_eq_true.1 h _ hl
    simp only [lineOk, Bool.and_eq_true, decide_eq_true_eq, beq_iff_eq, List.all_eq_true,
      List.any_eq_true, bne_iff_ne, powW_eq] at h
    obtain ⟨⟨⟨hp, hprod⟩, hfermat⟩, hqs⟩ := h
    refine lucas_primality p a ((zmod_pow_eq_one hp a _).2 hfermat) fun q hq hdvd => ?_
    obtain ⟨r, hr, hdvd⟩ := hq.prime.dvd_prod_iff.1
      (hq.dvd_of_dvd_pow (hdvd.trans (Nat.dvd_of_mod_eq_zero hprod)))
    obtain ⟨⟨hlt, l, hl, hlr⟩, hne⟩ := hqs r hr
    have hr : r.Prime := ih r hlt l hl (Nat.eq_of_beq_eq_true hlr)
    rwa [(Nat.prime_dvd_prime_iff_eq hq hr).1 hdvd, Ne, zmod_pow_eq_one hp]

end Frost.Pratt

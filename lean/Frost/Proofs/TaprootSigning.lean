/-
  Frost.Proofs.TaprootSigning — the Taproot ciphersuite (`Suite.taproot`) meets
  `SignSession.OkS` with the sign `sgnR` of the group commitment's parity, so `sign`, share
  verification and aggregation are characterised by the theorems of Frost.Proofs.Signing.
  `evenY` / `xOnly` are abstract; the facts used about them here are `xOnly (-P) = xOnly P` and
  that the group key has even Y (which Frost.Props.C18 gets from `evenY (-P) = !evenY P`).
-/
import Frost.Model.Taproot
import Frost.Proofs.Signing

set_option linter.unusedSectionVars false

namespace Frost

variable {F E : Type} [Field F] [DecidableEq F] [AddCommGroup E] [Module F E] [DecidableEq E]

namespace SignSession
variable (B : Base F E) (P : TrParams F E) (X : SignSession F E)

/-- the hash-derived values of a Taproot session: `X.vk` is the *even-Y* group key the
    binding factors are computed with; the Taproot challenge is total, so `hc` only says which
    value `X.c` records. -/
structure Ok0 : Prop where
  nodup : X.ids.Nodup
  hbfl : computeBindingFactorList (Suite.ofBase B) (X.pkg B) X.vk [] = .ok X.bfl
  hR : computeGroupCommitment (Suite.ofBase B) (X.pkg B) X.bfl = .ok X.R
  msm : MsmSound (E := E) B.leBytes
  /-- the recorded challenge is the BIP-340 one -/
  hc : X.c = B.H2 (P.xOnly X.R ++ P.xOnly X.vk ++ X.msg)

variable {B P X}

/-- sign of the nonces: `+1` if the group commitment has even Y, `−1` otherwise -/
def sgnR (P : TrParams F E) (X : SignSession F E) : F := if P.evenY X.R then 1 else -1

/-- the honest Taproot share of a signer whose (already even-normalised) secret share is `s i` -/
def trHonest (P : TrParams F E) (X : SignSession F E) (s : F → F) (i : F) : F :=
  sgnR P X * (X.d i + X.e i * X.rho i) + X.lam i * s i * X.c

theorem trHonest_eq : trHonest P X = X.honestS (sgnR P X) := rfl

section hooks
variable (B P)
@[simp] theorem tr_toBase : (Suite.taproot B P).toBase = B := rfl
@[simp] theorem tr_preSign (kp : KeyPackage F E) : (Suite.taproot B P).preSign kp = P.evenKp kp := rfl
@[simp] theorem tr_preAggregate (p : PublicKeyPackage F E) :
    (Suite.taproot B P).preAggregate p = P.evenPkp p := rfl
@[simp] theorem tr_challenge (R vk : E) (msg : Bytes) :
    (Suite.taproot B P).challenge R vk msg = .ok (B.H2 (P.xOnly R ++ P.xOnly vk ++ msg)) := rfl
@[simp] theorem tr_computeSignatureShare (R : E) (n : SigningNonces F E) (rho lam : F)
    (kp : KeyPackage F E) (c : F) :
    (Suite.taproot B P).computeSignatureShare R n rho lam kp c =
      defaultComputeSignatureShare (if P.evenY R then n else negateNonces B.G n) rho lam kp c := rfl
@[simp] theorem tr_verifyShare (R : E) (z id : F) (Rs Y : E) (lam c : F) :
    (Suite.taproot B P).verifyShare R z id Rs Y lam c =
      B.shareVerify z id (if P.evenY R then Rs else -Rs) Y lam c := rfl
@[simp] theorem tr_preVerify (sig : Signature F E) (vk : E) :
    (Suite.taproot B P).preVerify sig vk =
      (if P.evenY sig.R then sig else ⟨-sig.R, sig.z⟩, if P.evenY vk then vk else -vk) := rfl
end hooks

theorem sgn_smul (Q : E) :
    (if P.evenY X.R then Q else -Q) = sgnR P X • Q := by
  unfold sgnR
  split
  · rw [one_smul]
  · rw [neg_one_smul]

/-- **The Taproot suite in a session whose group key has even Y** (what `pre_sign` /
    `pre_aggregate` produce) is the plain suite up to the sign `sgnR` of the group commitment's
    parity. -/
theorem okS_of_ok0 (h : X.Ok0 B P) (hev : P.evenY X.vk = true)
    (hx : ∀ Q : E, P.xOnly (-Q) = P.xOnly Q) : X.OkS (Suite.taproot B P) (sgnR P X) where
  hbfl := (computeBindingFactorList_base (Suite.taproot B P) (Suite.ofBase B) rfl _ _ _).trans h.hbfl
  hR := (computeGroupCommitment_base (Suite.taproot B P) (Suite.ofBase B) rfl _ _).trans h.hR
  msm := h.msm
  hc := by rw [tr_challenge, h.hc]
  preSign kp hkp := by rw [tr_preSign, TrParams.evenKp, hkp, if_pos hev]
  preAggregate p hp := by rw [tr_preAggregate, TrParams.evenPkp, hp, if_pos hev]
  preVerify z := by
    rw [tr_preVerify, if_pos hev, ← sgn_smul]
    split <;> rfl
  hc' := by
    rw [tr_challenge, h.hc, ← sgn_smul]
    split
    · rfl
    · rw [hx]
  share n rho lam kp c := by
    rw [tr_computeSignatureShare, sgnR]
    split
    · rw [one_mul]; rfl
    · simp only [defaultComputeSignatureShare, negateNonces]; ring
  verifyShare z id Rs Y lam c := by rw [tr_verifyShare, sgn_smul]; rfl

end SignSession
end Frost

/-
  Frost.Proofs.Maps — insertion into and collecting of the association-list model of `BTreeMap` /
  `BTreeSet`, up to permutation: none of these facts needs an assumption on the order `lt`
  (keys and lookups: Frost.Proofs.MapBasic).
-/
import Frost.Proofs.MapBasic
import Mathlib.Data.List.Perm.Subperm

set_option linter.unusedSectionVars false

namespace Frost
namespace SMap

variable {K V W : Type} [DecidableEq K]

theorem setOrderedInsert_perm (lt : K → K → Bool) (l : List K) (k : K) :
    (setOrderedInsert lt l k).Perm (k :: l) := by
  induction l with
  | nil => simp [setOrderedInsert]
  | cons b r ih =>
    unfold setOrderedInsert
    split
    · exact List.Perm.refl _
    · exact (List.Perm.cons b ih).trans (List.Perm.swap k b r)

theorem setInsert_of_mem (lt : K → K → Bool) {l : List K} {k : K} (h : k ∈ l) :
    setInsert lt l k = l := by
  rw [setInsert, if_pos (List.contains_iff_mem.mpr h)]

theorem setInsert_perm (lt : K → K → Bool) {l : List K} {k : K} (h : k ∉ l) :
    (setInsert lt l k).Perm (k :: l) := by
  rw [setInsert, if_neg (mt List.contains_iff_mem.mp h)]
  exact setOrderedInsert_perm lt l k

theorem foldl_setInsert (lt : K → K → Bool) (l acc : List K) (hacc : acc.Nodup) :
    (l.foldl (setInsert lt) acc).Nodup ∧
    ∀ a, a ∈ l.foldl (setInsert lt) acc ↔ a ∈ acc ∨ a ∈ l := by
  induction l generalizing acc with
  | nil => exact ⟨hacc, fun a => by simp⟩
  | cons b r ih =>
    rw [List.foldl_cons]
    by_cases hb : b ∈ acc
    · rw [setInsert_of_mem lt hb]
      refine ⟨(ih acc hacc).1, fun a => ?_⟩
      rw [(ih acc hacc).2, List.mem_cons]
      constructor
      · rintro (h | h)
        exacts [Or.inl h, Or.inr (Or.inr h)]
      · rintro (h | rfl | h)
        exacts [Or.inl h, Or.inl hb, Or.inr h]
    · have hp := setInsert_perm lt hb
      have := ih _ (hp.nodup_iff.mpr (List.nodup_cons.mpr ⟨hb, hacc⟩))
      refine ⟨this.1, fun a => ?_⟩
      rw [this.2, hp.mem_iff, List.mem_cons, List.mem_cons, or_comm (a := a = b), or_assoc]

theorem nodup_setOfList (lt : K → K → Bool) (l : List K) : (setOfList lt l).Nodup :=
  (foldl_setInsert lt l [] List.nodup_nil).1

theorem mem_setOfList (lt : K → K → Bool) (l : List K) (a : K) : a ∈ setOfList lt l ↔ a ∈ l := by
  rw [setOfList, (foldl_setInsert lt l [] List.nodup_nil).2]; simp

theorem setOfList_subperm (lt : K → K → Bool) (l : List K) : (setOfList lt l).Subperm l :=
  (nodup_setOfList lt l).subperm fun a => (mem_setOfList lt l a).mp

theorem setOfList_perm (lt : K → K → Bool) {l : List K} (h : l.Nodup) : (setOfList lt l).Perm l :=
  (List.perm_ext_iff_of_nodup (nodup_setOfList lt l) h).mpr (mem_setOfList lt l)

/-- the duplicate check `set.len() != list.len()` of the code is exactly `¬ Nodup` -/
theorem length_setOfList_eq_iff (lt : K → K → Bool) (l : List K) :
    (setOfList lt l).length = l.length ↔ l.Nodup :=
  ⟨fun h =>
    have hp := (setOfList_subperm lt l).perm_of_length_le (Nat.le_of_eq h.symm)
    hp.nodup_iff.mp (nodup_setOfList lt l),
   fun h => (setOfList_perm lt h).length_eq⟩

theorem orderedInsert_perm (lt : K → K → Bool) (m : List (K × V)) (k : K) (v : V) :
    (orderedInsert lt m k v).Perm ((k, v) :: m) := by
  induction m with
  | nil => simp [orderedInsert]
  | cons b r ih =>
    unfold orderedInsert
    split
    · exact List.Perm.refl _
    · exact (List.Perm.cons b ih).trans (List.Perm.swap _ b r)

theorem insert_perm_of_not_mem (lt : K → K → Bool) (m : List (K × V)) (k : K) (v : V)
    (h : k ∉ keys m) : (insert lt m k v).Perm ((k, v) :: m) := by
  rw [insert, if_neg (mt (contains_iff m k).mp h)]
  exact orderedInsert_perm lt m k v

theorem keys_insert_of_not_mem (lt : K → K → Bool) (m : List (K × V)) (k : K) (v : V)
    (h : k ∉ keys m) : (keys (insert lt m k v)).Perm (k :: keys m) :=
  (insert_perm_of_not_mem lt m k v h).map Prod.fst

theorem keys_replace (m : List (K × V)) (k : K) (v : V) : keys (replace m k v) = keys m := by
  induction m with
  | nil => rfl
  | cons kv r ih =>
    unfold replace
    split
    · rw [keys_cons, keys_cons, ‹kv.1 = k›]
    · rw [keys_cons, keys_cons, ih]

theorem keys_insert_perm (lt : K → K → Bool) (m : List (K × V)) (k : K) (v : V) :
    k ∈ keys m ∧ keys (insert lt m k v) = keys m ∨
    k ∉ keys m ∧ (keys (insert lt m k v)).Perm (k :: keys m) := by
  by_cases h : k ∈ keys m
  · exact .inl ⟨h, by rw [insert, if_pos ((contains_iff m k).mpr h), keys_replace]⟩
  · exact .inr ⟨h, keys_insert_of_not_mem lt m k v h⟩

theorem get?_replace (m : List (K × V)) (k : K) (v : V) (k' : K) (hk : k ∈ keys m) :
    get? (replace m k v) k' = if k = k' then some v else get? m k' := by
  induction m with
  | nil => cases hk
  | cons kv r ih =>
    unfold replace
    split
    · rw [get?_cons, get?, ‹kv.1 = k›]
      split <;> rfl
    · rw [get?, get?, ih ((List.mem_cons.mp hk).resolve_left (Ne.symm ‹_›))]
      rename_i hne
      by_cases h2 : kv.1 = k'
      · rw [if_pos h2, if_neg fun e : k = k' => hne (h2.trans e.symm), if_pos h2]
      · rw [if_neg h2, if_neg h2]

theorem get?_orderedInsert (lt : K → K → Bool) (m : List (K × V)) (k : K) (v : V) (k' : K)
    (hk : k ∉ keys m) :
    get? (orderedInsert lt m k v) k' = if k = k' then some v else get? m k' := by
  induction m with
  | nil => rfl
  | cons kv r ih =>
    obtain ⟨ha, hk⟩ := not_or.mp (mt List.mem_cons.mpr hk)
    unfold orderedInsert
    split
    · rfl
    · rw [get?, get?, ih hk]
      by_cases h2 : kv.1 = k'
      · rw [if_pos h2, if_neg fun e : k = k' => ha (e.trans h2.symm), if_pos h2]
      · rw [if_neg h2, if_neg h2]

/-- `BTreeMap::insert` followed by a lookup -/
theorem get?_insert (lt : K → K → Bool) (m : List (K × V)) (k : K) (v : V) (k' : K) :
    get? (insert lt m k v) k' = if k = k' then some v else get? m k' := by
  unfold insert
  split
  · exact get?_replace m k v k' ((contains_iff m k).mp ‹_›)
  · exact get?_orderedInsert lt m k v k' (mt (contains_iff m k).mpr ‹_›)

theorem foldl_insert_perm (lt : K → K → Bool) (l acc : List (K × V)) (hnd : (keys l).Nodup)
    (hd : ∀ a ∈ keys l, a ∉ keys acc) :
    (l.foldl (fun m kv => insert lt m kv.1 kv.2) acc).Perm (acc ++ l) := by
  induction l generalizing acc with
  | nil => simp
  | cons kv r ih =>
    obtain ⟨hkr, hndr⟩ := List.nodup_cons.mp hnd
    have hk : kv.1 ∉ keys acc := hd _ List.mem_cons_self
    refine (ih _ hndr fun a ha => ?_).trans
      (((insert_perm_of_not_mem lt acc kv.1 kv.2 hk).append_right r).trans List.perm_middle.symm)
    rw [(keys_insert_of_not_mem lt acc kv.1 kv.2 hk).mem_iff, List.mem_cons, not_or]
    exact ⟨fun e => hkr (e ▸ ha : kv.1 ∈ keys r), hd a (List.mem_cons_of_mem _ ha)⟩

theorem ofList_perm (lt : K → K → Bool) (l : List (K × V)) (hnd : (keys l).Nodup) :
    (ofList lt l).Perm l := by
  simpa [ofList] using foldl_insert_perm lt l [] hnd (by simp)

theorem get?_perm {m m' : List (K × V)} (h : m.Perm m') (hnd : (keys m).Nodup) (k : K) :
    get? m k = get? m' k := by
  cases hg : get? m' k with
  | none =>
    rw [get?_eq_none_iff] at hg ⊢
    exact fun hk => hg ((h.map Prod.fst).mem_iff.mp hk)
  | some v => exact get?_of_mem_nodup m hnd k v (h.mem_iff.mpr (get?_some_mem m' k v hg))

theorem keys_ofList_perm (lt : K → K → Bool) (l : List (K × V)) (hnd : (keys l).Nodup) :
    (keys (ofList lt l)).Perm (keys l) :=
  (ofList_perm lt l hnd).map Prod.fst

theorem get?_ofList (lt : K → K → Bool) (l : List (K × V)) (hnd : (keys l).Nodup) (k : K) :
    get? (ofList lt l) k = get? l k :=
  (get?_perm (ofList_perm lt l hnd).symm hnd k).symm

end SMap
end Frost

/-
  Frost.Proofs.MapBasic — keys and lookups of the association-list model of `BTreeMap`
  (Frost.Model.Map), and the one fact that depends on the order: collecting entries that are
  already strictly ascending leaves them as they are.  Needs no Mathlib, so that the lemmas
  about the model's entry points (Frost.Proofs.Steps) and the wire model can use it.
-/
import Frost.Model.Map

namespace Frost
namespace SMap

set_option linter.unusedSectionVars false

variable {K V W : Type} [DecidableEq K]

@[simp] theorem keys_nil : keys ([] : List (K × V)) = [] := rfl
@[simp] theorem keys_cons (kv : K × V) (m : List (K × V)) : keys (kv :: m) = kv.1 :: keys m := rfl

@[simp] theorem keys_map_snd (m : List (K × V)) (g : K × V → W) :
    keys (m.map fun kv => (kv.1, g kv)) = keys m := by
  simp [keys, Function.comp_def]

@[simp] theorem keys_graph (l : List K) (f : K → V) : keys (l.map fun k => (k, f k)) = l := by
  simp [keys, Function.comp_def]

theorem get?_eq_none_iff (m : List (K × V)) (k : K) : get? m k = none ↔ k ∉ keys m := by
  induction m with
  | nil => simp
  | cons kv r ih =>
    rw [get?, keys_cons, List.mem_cons, not_or, ← ih]
    by_cases h : kv.1 = k
    · rw [if_pos h]; exact ⟨nofun, fun h' => absurd h.symm h'.1⟩
    · rw [if_neg h]; exact ⟨fun h' => ⟨Ne.symm h, h'⟩, And.right⟩

theorem contains_iff (m : List (K × V)) (k : K) : contains m k = true ↔ k ∈ keys m := by
  rw [contains, Option.isSome_iff_ne_none, Ne, get?_eq_none_iff, Decidable.not_not]

theorem contains_eq_false_iff (m : List (K × V)) (k : K) : contains m k = false ↔ k ∉ keys m := by
  rw [← contains_iff, Bool.not_eq_true]

/-- the guard "some key of `l` is missing from `m`" -/
theorem any_not_contains (l : List K) (m : List (K × V)) :
    (l.any fun k => !contains m k) = true ↔ ¬ ∀ k ∈ l, k ∈ keys m := by
  simp only [List.any_eq_true, Bool.not_eq_eq_eq_not, Bool.not_true, contains_eq_false_iff,
    Classical.not_forall, exists_prop]

/-! the guard `if map.contains_key(k)`, as it is discharged with `if_pos` / `if_neg` -/

theorem contains_of_mem {m : List (K × V)} {k : K} (h : k ∈ keys m) : contains m k = true :=
  (contains_iff m k).mpr h

theorem not_contains_of_not_mem {m : List (K × V)} {k : K} (h : k ∉ keys m) :
    ¬ contains m k = true :=
  mt (contains_iff m k).mp h

theorem get?_some_mem (m : List (K × V)) (k : K) (v : V) (h : get? m k = some v) : (k, v) ∈ m := by
  induction m with
  | nil => cases h
  | cons kv r ih =>
    rw [get?] at h
    split at h
    · cases h; exact ‹kv.1 = k› ▸ List.mem_cons_self
    · exact List.mem_cons_of_mem _ (ih h)

theorem get?_of_mem_nodup (m : List (K × V)) (hnd : (keys m).Nodup) (k : K) (v : V)
    (h : (k, v) ∈ m) : get? m k = some v := by
  induction m with
  | nil => cases h
  | cons kv r ih =>
    obtain ⟨hk, hnd⟩ := List.nodup_cons.mp hnd
    rw [get?]
    rcases List.mem_cons.mp h with rfl | h
    · exact if_pos rfl
    · rw [if_neg fun e : kv.1 = k => hk (List.mem_map.mpr ⟨(k, v), h, e.symm⟩), ih hnd h]

theorem get?_map_snd (m : List (K × V)) (g : V → W) (k : K) :
    get? (m.map fun kv => (kv.1, g kv.2)) k = (get? m k).map g := by
  induction m with
  | nil => rfl
  | cons kv r ih =>
    rw [List.map_cons, get?_cons, get?_cons]
    split
    · rfl
    · exact ih

theorem get?_graph (l : List K) (f : K → V) (k : K) (hk : k ∈ l) :
    get? (l.map fun k => (k, f k)) k = some (f k) := by
  induction l with
  | nil => cases hk
  | cons a r ih =>
    rw [List.map_cons, get?_cons]
    split
    · rw [‹a = k›]
    · exact ih ((List.mem_cons.mp hk).resolve_left (Ne.symm ‹_›))

theorem orderedInsert_append (lt : K → K → Bool) (m : List (K × V)) (k : K) (v : V)
    (h : ∀ kv ∈ m, lt k kv.1 = false) : orderedInsert lt m k v = m ++ [(k, v)] := by
  induction m with
  | nil => rfl
  | cons x xs ih =>
    rw [orderedInsert, h x List.mem_cons_self, if_neg Bool.false_ne_true,
      ih fun kv hkv => h kv (List.mem_cons_of_mem _ hkv), List.cons_append]

variable (lt : K → K → Bool) (hasym : ∀ a b, lt a b = true → lt b a = false)
include hasym

theorem insert_last (m : List (K × V)) (k : K) (v : V) (h : ∀ kv ∈ m, lt kv.1 k = true) :
    insert lt m k v = m ++ [(k, v)] := by
  have hnot : contains m k = false := by
    rw [contains_eq_false_iff]
    intro hk
    obtain ⟨kv, hkv, rfl⟩ := List.mem_map.1 hk
    have h1 := h kv hkv
    exact Bool.false_ne_true ((hasym _ _ h1).symm.trans h1)
  rw [insert, hnot, if_neg Bool.false_ne_true]
  exact orderedInsert_append lt m k v fun kv hkv => hasym _ _ (h kv hkv)

theorem foldl_insert_sorted (l acc : List (K × V))
    (hp : (acc ++ l).Pairwise (fun a b => lt a.1 b.1 = true)) :
    l.foldl (fun m kv => insert lt m kv.1 kv.2) acc = acc ++ l := by
  induction l generalizing acc with
  | nil => exact (List.append_nil acc).symm
  | cons x xs ih =>
    have hx := insert_last lt hasym acc x.1 x.2 fun kv hkv =>
      (List.pairwise_append.1 hp).2.2 kv hkv x List.mem_cons_self
    rw [List.foldl_cons, hx, ih (acc ++ [x]) (by rw [List.append_assoc]; exact hp)]
    exact List.append_assoc acc [x] xs

end SMap
end Frost

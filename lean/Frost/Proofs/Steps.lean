/-
  Frost.Proofs.Steps — what a successful run of an entry point did, in program order: the
  model's `?` chains inverted once, for every proof that starts from `f … = .ok r`; with them a
  few closed forms and congruences that need no algebra either (`shareVerify_eq`,
  `detectLoop_eq`, the `_base` lemmas).  No algebra is needed, so the lemmas are stated over the
  bare operations the model is written with: they serve the property files that have no field,
  and no statement here sends instance search through the algebraic hierarchy.

  Names: `f_ok` goes from `f … = .ok r` to what happened; `f_eq_ok` is an iff about
  `f … = .ok r`; `f_eq` is a closed form; `f_spec`, a name several theorems of the development
  carry, is what a loop returns or guarantees, in whichever of these forms.  A model function
  whose arguments do not mention the scalar type has `F` only in its result `Outcome F _`; such
  calls carry a type ascription.
-/
import Frost.Model.Refresh
import Frost.Model.Repair
import Frost.Proofs.MapBasic

set_option linter.unusedSectionVars false

namespace Frost

variable {F E : Type}

namespace Tape

theorem draw_append (b rest : Bytes) : Tape.draw (b ++ rest) b.length = some (b, rest) := by
  simp [Tape.draw]

theorem draw_split {t : Tape} {n : Nat} {b : Bytes} {t' : Tape} (h : t.draw n = some (b, t')) :
    t = b ++ t' ∧ b.length = n := by
  unfold Tape.draw at h
  split at h
  · rename_i hle
    cases h
    exact ⟨(List.take_append_drop n t).symm, List.length_take_of_le hle⟩
  · cases h

end Tape

namespace Outcome

theorem ofOption_eq_ok {α : Type} {o : Option α} {e : Err F} {a : α} :
    Outcome.ofOption o e = .ok a ↔ o = some a := by
  cases o <;> simp [Outcome.ofOption]

theorem ite_error_eq_ok {α : Type} {c : Prop} [Decidable c] {e : Err F} {x : Outcome F α}
    {a : α} : (if c then .error e else x) = .ok a ↔ ¬ c ∧ x = .ok a := by
  split <;> simp [*]

theorem ite_panic_eq_ok {α : Type} {c : Prop} [Decidable c] {s : String} {x : Outcome F α}
    {a : α} : (if c then .panic s else x) = .ok a ↔ ¬ c ∧ x = .ok a := by
  split <;> simp [*]

theorem ite_eq_ok {α : Type} {p : Prop} [Decidable p] {a : α} {e : Err F} :
    (if p then ok a else error e : Outcome F α) = ok a ↔ p :=
  ⟨fun h => Decidable.byContradiction fun hp => (by rw [if_neg hp] at h; cases h), fun hp => if_pos hp⟩

theorem exists_ite_eq_ok {α : Type} {p : Prop} [Decidable p] {a : α} {e : Err F} :
    (∃ b, (if p then ok a else error e : Outcome F α) = ok b) ↔ p :=
  ⟨fun ⟨_, h⟩ => Decidable.byContradiction fun hp => (by rw [if_neg hp] at h; cases h),
   fun hp => ⟨a, if_pos hp⟩⟩

end Outcome

theorem Base.encElemO_eq_ok {B : Base F E} {e : E} {b : Bytes} :
    B.encElemO e = .ok b ↔ B.encElem e = some b := Outcome.ofOption_eq_ok

theorem validateNumOfSigners_eq_ok {mn mx : Nat} :
    (validateNumOfSigners mn mx : Outcome F Unit) = .ok () ↔ 2 ≤ mn ∧ mn ≤ mx := by
  unfold validateNumOfSigners
  rw [Outcome.ite_error_eq_ok, Outcome.ite_error_eq_ok, Outcome.ite_error_eq_ok]
  simp only [eq_self, and_true]
  omega

/-- binding factors and group commitment only use the base of a suite -/
theorem encodeGroupCommitments_base (S S' : Suite F E) (hb : S.toBase = S'.toBase)
    (cs : List (F × SigningCommitments E)) :
    encodeGroupCommitments S cs = encodeGroupCommitments S' cs := by
  induction cs with
  | nil => rfl
  | cons a r ih =>
    obtain ⟨i, c⟩ := a
    unfold encodeGroupCommitments
    rw [ih, hb]

theorem encodeGroupCommitments_cons_eq_ok {S : Suite F E} {i : F} {c : SigningCommitments E}
    {r : List (F × SigningCommitments E)} {b : Bytes} :
    encodeGroupCommitments S ((i, c) :: r) = .ok b ↔
      ∃ x y z, S.encElem c.hid = some x ∧ S.encElem c.bnd = some y ∧
        encodeGroupCommitments S r = .ok z ∧ b = S.encScalar i ++ x ++ y ++ z := by
  constructor
  · intro h
    rw [encodeGroupCommitments] at h
    split at h
    · rename_i x hx
      split at h
      · rename_i y hy
        split at h
        · rename_i z hz
          cases h
          exact ⟨x, y, z, Base.encElemO_eq_ok.mp hx, Base.encElemO_eq_ok.mp hy, hz, rfl⟩
        · cases h
        · cases h
      · cases h
      · cases h
    · cases h
    · cases h
  · rintro ⟨x, y, z, hx, hy, hz, rfl⟩
    rw [encodeGroupCommitments, Base.encElemO_eq_ok.mpr hx, Base.encElemO_eq_ok.mpr hy, hz]

theorem generateCoefficients_length {S : Suite F E} {n : Nat} {t t' : Tape} {cs : List F}
    (h : generateCoefficients S n t = some (cs, t')) : cs.length = n := by
  induction n generalizing t cs with
  | zero => simp [generateCoefficients] at h; simp [h.1.symm]
  | succ n ih =>
    unfold generateCoefficients at h
    split at h
    · cases h
    · rename_i c t1 _
      split at h
      · cases h
      · rename_i cs' t2 h2
        cases h
        simp [ih h2]

-- what stands above needs no operation of `F` or `E`, and so takes no instance argument; every
-- theorem below takes all fourteen, whichever of them its model function uses
variable [Add F] [Mul F] [Sub F] [Neg F] [Zero F] [One F] [Inv F] [DecidableEq F]
variable [Add E] [Sub E] [Neg E] [Zero E] [SMul F E] [DecidableEq E]

theorem shareVerify_eq (B : Base F E) (z id : F) (Rs Y : E) (lam c : F) :
    B.shareVerify z id Rs Y lam c =
      if z • B.G = Rs + lam • (c • Y) then .ok () else .error (.InvalidSignatureShare [id]) := by
  simp only [Base.shareVerify, ne_eq, ite_not]

theorem computeBindingFactorList_base (S S' : Suite F E) (hb : S.toBase = S'.toBase)
    (pkg : SigningPackage F E) (vk : E) (p : Bytes) :
    computeBindingFactorList S pkg vk p = computeBindingFactorList S' pkg vk p := by
  unfold computeBindingFactorList bindingFactorPreimages
  rw [encodeGroupCommitments_base S S' hb, hb]

theorem computeGroupCommitment_base (S S' : Suite F E) (hb : S.toBase = S'.toBase)
    (pkg : SigningPackage F E) (bfl : List (F × F)) :
    computeGroupCommitment S pkg bfl = computeGroupCommitment S' pkg bfl := by
  unfold computeGroupCommitment
  rw [hb]

theorem verifySignature_eq_ok {S : Suite F E} {vk : E} {msg : Bytes} {sig : Signature F E} :
    verifySignature S vk msg sig = .ok () ↔
      ∃ c, S.challenge (S.preVerify sig vk).1.R (S.preVerify sig vk).2 msg = .ok c ∧
        S.cofactor • (((S.preVerify sig vk).1.z • S.G - c • (S.preVerify sig vk).2) -
          (S.preVerify sig vk).1.R) = 0 := by
  unfold verifySignature
  generalize S.preVerify sig vk = p
  obtain ⟨sig', vk'⟩ := p
  dsimp only
  cases S.challenge sig'.R vk' msg <;> simp [Base.verifyPrehashed]

/-- `detect_cheater` returns `Result<(), Error>` and every path ends in `Err`, for every suite -/
theorem detectCheater_ne_ok (S : Suite F E) (R : E) (pkp : PublicKeyPackage F E)
    (pkg : SigningPackage F E) (shares bfl : List (F × F)) (mode : CheaterDetection) :
    detectCheater S R pkp pkg shares bfl mode ≠ .ok () := by
  unfold detectCheater
  cases S.challenge R pkp.vk pkg.message with
  | error e => simp
  | panic s => simp
  | ok c =>
    simp only
    cases detectLoop S pkg bfl R c pkp.vshares mode.isFirst shares [] with
    | error e => simp
    | panic s => simp
    | ok cs => simp only; split <;> simp

theorem aggregateCustom_ok {S : Suite F E} {pkg : SigningPackage F E} {shares : List (F × F)}
    {pkp : PublicKeyPackage F E} {mode : CheaterDetection} {σ : Signature F E}
    (h : aggregateCustom S pkg shares pkp mode = .ok σ) :
    ∃ bfl, computeBindingFactorList S pkg (S.preAggregate pkp).vk [] = .ok bfl ∧
      computeGroupCommitment S pkg bfl = .ok σ.R ∧
      σ.z = (SMap.values shares).foldl (fun z s => z + s) 0 ∧
      verifySignature S (S.preAggregate pkp).vk pkg.message σ = .ok () := by
  unfold aggregateCustom at h
  obtain ⟨_, h⟩ := Outcome.ite_error_eq_ok.mp h
  obtain ⟨_, h⟩ := Outcome.ite_error_eq_ok.mp h
  obtain ⟨_, h⟩ := Outcome.ite_error_eq_ok.mp h
  dsimp only at h
  split at h
  · rename_i bfl hb
    refine ⟨bfl, hb, ?_⟩
    unfold aggregateCore at h
    split at h
    · rename_i R hR
      dsimp only at h
      split at h
      · cases h
      · rename_i hv
        cases h
        exact ⟨hR, rfl, hv⟩
      · split at h
        · cases h
        · split at h
          · rename_i hd
            exact absurd hd (detectCheater_ne_ok _ _ _ _ _ _ _)
          · cases h
          · cases h
    · cases h
    · cases h
  · cases h
  · cases h

namespace SignSession

/-- the `for` loop of `detect_cheater` in closed form, for any suite and package: it is enough to
    know that each share check either passes or blames its own signer (`bad`) -/
theorem detectLoop_eq {S : Suite F E} {pkg : SigningPackage F E} {bfl : List (F × F)} {R : E}
    {c : F} {vs : List (F × E)} {first : Bool} {z : F → F} {bad : F → Bool} {l : List F}
    (h : ∀ i ∈ l, ∃ Y, SMap.get? vs i = some Y ∧
      verifySignatureSharePrecomputed S i pkg bfl R (z i) Y c =
        if bad i then .error (.InvalidSignatureShare [i]) else .ok ()) (culprits : List F) :
    detectLoop S pkg bfl R c vs first (l.map fun i => (i, z i)) culprits =
      .ok (culprits ++ if first then (l.find? bad).toList else l.filter bad) := by
  induction l generalizing culprits with
  | nil => cases first <;> simp [detectLoop]
  | cons a r ih =>
    obtain ⟨Y, hY, hv⟩ := h a (by simp)
    have ih := ih fun i hi => h i (by simp [hi])
    rw [List.map_cons, detectLoop]
    simp only [hY, hv]
    cases hb : bad a
    · simp [ih, hb]
    · cases first <;> simp [ih, hb]

/-- the error `aggregate_custom` ends with when the aggregate does not verify and `bad` marks the
    signers whose share fails: `verify_signature`'s own error if detection is disabled, otherwise
    what `detect_cheater` reports -/
def culpritReport (ids : List F) (bad : F → Bool) (mode : CheaterDetection) : Err F :=
  match mode with
  | .Disabled => .InvalidSignature
  | .FirstCheater =>
    match ids.find? bad with
    | some i => .InvalidSignatureShare [i]
    | none => .InvalidSignature
  | .AllCheaters =>
    if (ids.filter bad).isEmpty then .InvalidSignature else .InvalidSignatureShare (ids.filter bad)

theorem detectCheater_eq {S : Suite F E} {R : E} {pkp : PublicKeyPackage F E}
    {pkg : SigningPackage F E} {bfl : List (F × F)} {c : F}
    (hc : S.challenge R pkp.vk pkg.message = .ok c) {z : F → F} (bad : F → Bool) {l : List F}
    (h : ∀ i ∈ l, ∃ Y, SMap.get? pkp.vshares i = some Y ∧
      verifySignatureSharePrecomputed S i pkg bfl R (z i) Y c =
        if bad i then .error (.InvalidSignatureShare [i]) else .ok ())
    {mode : CheaterDetection} (hm : mode ≠ .Disabled) :
    detectCheater S R pkp pkg (l.map fun i => (i, z i)) bfl mode =
      .error (SignSession.culpritReport l bad mode) := by
  unfold detectCheater
  simp only [hc, detectLoop_eq h, List.nil_append]
  cases mode with
  | Disabled => exact absurd rfl hm
  | FirstCheater =>
    simp only [CheaterDetection.isFirst, if_true, SignSession.culpritReport]
    cases l.find? bad <;> rfl
  | AllCheaters =>
    simp only [CheaterDetection.isFirst, Bool.false_eq_true, if_false, SignSession.culpritReport]
    cases (l.filter bad).isEmpty <;> rfl

end SignSession

theorem generateSecretPolynomial_ok {S : Suite F E} {secret : F} {n t : Nat} {coeffs cs : List F}
    {cm : List E} (h : generateSecretPolynomial S secret n t coeffs = .ok (cs, cm)) :
    2 ≤ t ∧ t ≤ n ∧ coeffs.length = t - 1 ∧ cs = secret :: coeffs ∧
      cm = cs.map fun c => c • S.G := by
  unfold generateSecretPolynomial at h
  split at h
  · rename_i hv
    split at h
    · cases h
    · rename_i hlen
      cases h
      exact ⟨(validateNumOfSigners_eq_ok.1 hv).1, (validateNumOfSigners_eq_ok.1 hv).2,
        by simpa using hlen, rfl, rfl⟩
  · cases h
  · cases h

theorem computeProofOfKnowledge_ok {S : Suite F E} {id : F} {cs : List F} {cm : List E}
    {t t' : Tape} {pok : Signature F E} (h : computeProofOfKnowledge S id cs cm t = .ok (pok, t')) :
    ∃ k R vk c a0, S.generateNonce t = some ((k, R), t') ∧ cm.head? = some vk ∧
      dkgChallenge S id vk R = .ok c ∧ cs.head? = some a0 ∧ pok = ⟨R, k + a0 * c⟩ := by
  unfold computeProofOfKnowledge at h
  split at h
  · cases h
  rename_i k R t1 hn
  split at h
  · cases h
  rename_i vk hv
  split at h
  · rename_i c hc
    split at h
    · cases h
    rename_i a0 ha
    cases h
    exact ⟨k, R, vk, c, a0, hn, hv, hc, ha, rfl⟩
  · cases h
  · cases h

theorem dkgPart1_ok {S : Suite F E} {id : F} {n t : Nat} {tape tape' : Tape}
    {out : Round1Secret F E × Round1Package F E} (h : dkgPart1 S id n t tape = .ok (out, tape')) :
    ∃ secret t1 coeffs t2 pok, 2 ≤ t ∧ t ≤ n ∧ coeffs.length = t - 1 ∧
      signingKeyNew S tape = some (secret, t1) ∧
      generateCoefficients S (t - 1) t1 = some (coeffs, t2) ∧
      computeProofOfKnowledge S id (secret :: coeffs) ((secret :: coeffs).map fun c => c • S.G) t2 =
        .ok (pok, tape') ∧
      out = (⟨id, secret :: coeffs, (secret :: coeffs).map fun c => c • S.G, t, n⟩,
             ⟨(secret :: coeffs).map fun c => c • S.G, pok⟩) := by
  unfold dkgPart1 at h
  split at h
  · cases h
  · cases h
  split at h
  · cases h
  rename_i secret t1 hk
  split at h
  · cases h
  rename_i coeffs t2 hc
  split at h
  · cases h
  · cases h
  rename_i cs cm hg
  obtain ⟨h2, hn, hlen, rfl, rfl⟩ := generateSecretPolynomial_ok hg
  split at h
  · cases h
  · cases h
  rename_i pok t3 hp
  cases h
  exact ⟨secret, t1, coeffs, t2, pok, h2, hn, hlen, hk, hc, hp, rfl⟩

theorem refreshDkgPart1_ok {S : Suite F E} {id : F} {n t : Nat} {tape tape' : Tape}
    {out : Round1Secret F E × Round1Package F E}
    (h : refreshDkgPart1 S id n t tape = .ok (out, tape')) :
    ∃ coeffs t1 pok, 2 ≤ t ∧ t ≤ n ∧ coeffs.length = t - 1 ∧
      generateCoefficients S (t - 1) tape = some (coeffs, t1) ∧
      computeProofOfKnowledge S id (0 :: coeffs) (coeffs.map fun c => c • S.G) t1 = .ok (pok, tape') ∧
      out = (⟨id, 0 :: coeffs, coeffs.map fun c => c • S.G, t, n⟩,
             ⟨coeffs.map fun c => c • S.G, pok⟩) := by
  unfold refreshDkgPart1 at h
  split at h
  · cases h
  · cases h
  split at h
  · cases h
  rename_i coeffs t1 hc
  split at h
  · cases h
  · cases h
  rename_i cs cm hg
  obtain ⟨h2, hn, hlen, rfl, rfl⟩ := generateSecretPolynomial_ok hg
  simp only [List.map_cons] at h
  split at h
  · cases h
  · cases h
  rename_i pok t2 hp
  cases h
  exact ⟨coeffs, t1, pok, h2, hn, hlen, hc, hp, rfl⟩

theorem dkgPart2_ok {S : Suite F E} {sp : Round1Secret F E} {r1 : List (F × Round1Package F E)}
    {sp2 : Round2Secret F E} {r2 : List (F × F)} (h : dkgPart2 S sp r1 = .ok (sp2, r2)) :
    sp.maxSigners ≠ 0 ∧ r1.length = sp.maxSigners - 1 ∧ SMap.contains r1 sp.id = false ∧
    (∀ ip ∈ r1, asU16 ip.2.commitment.length = sp.minSigners) ∧
    part2Loop S sp.coefficients r1 = .ok r2 ∧
    ∃ fii, evaluatePolynomial sp.id sp.coefficients = .ok fii ∧
      sp2 = ⟨sp.id, sp.commitment, fii, sp.minSigners, sp.maxSigners⟩ := by
  unfold dkgPart2 at h
  obtain ⟨h0, h⟩ := Outcome.ite_panic_eq_ok.1 h
  obtain ⟨hlen, h⟩ := Outcome.ite_error_eq_ok.1 h
  obtain ⟨hown, h⟩ := Outcome.ite_error_eq_ok.1 h
  obtain ⟨hany, h⟩ := Outcome.ite_error_eq_ok.1 h
  split at h
  · rename_i r hl
    split at h
    · rename_i fii he
      cases h
      refine ⟨h0, by simpa using hlen, by simpa using hown, ?_, hl, fii, he, rfl⟩
      intro ip hip
      exact Decidable.byContradiction fun hne =>
        hany (List.any_eq_true.2 ⟨ip, hip, by simpa using hne⟩)
    · cases h
    · cases h
  · cases h
  · cases h

theorem dkgPart3_eq_ok (S : Suite F E) (sp : Round2Secret F E)
    (r1 : List (F × Round1Package F E)) (r2 : List (F × F))
    (out : KeyPackage F E × PublicKeyPackage F E) :
    dkgPart3 S sp r1 r2 = .ok out ↔
      sp.maxSigners ≠ 0 ∧ r1.length = sp.maxSigners - 1 ∧ sp.id ∉ SMap.keys r1 ∧
      sp.id ∉ SMap.keys r2 ∧ r1.length = r2.length ∧ (∀ a ∈ SMap.keys r1, a ∈ SMap.keys r2) ∧
      ∃ sum pkp,
        part3Loop S sp.id (r1.map fun ip => (ip.1, ip.2.commitment)) true r2 0 = .ok sum ∧
        PublicKeyPackage.fromDkgCommitments (SMap.insert S.idLt
          (r1.map fun ip => (ip.1, ip.2.commitment)) sp.id sp.commitment) = .ok pkp ∧
        out = S.postDkg ⟨sp.id, sum + sp.secretShare, (sum + sp.secretShare) • S.G, pkp.vk,
          sp.minSigners⟩ pkp := by
  simp only [dkgPart3, Outcome.ite_error_eq_ok, Outcome.ite_panic_eq_ok, SMap.contains_iff,
    SMap.any_not_contains, Decidable.not_not, ne_eq]
  -- the six guards now stand on both sides; what is left is the two `?` after them
  refine and_congr_right' (and_congr_right' (and_congr_right' (and_congr_right'
    (and_congr_right' (and_congr_right' ?_)))))
  cases part3Loop S sp.id (r1.map fun ip => (ip.1, ip.2.commitment)) true r2 0 with
  | ok sum =>
    cases (PublicKeyPackage.fromDkgCommitments (SMap.insert S.idLt
      (r1.map fun ip => (ip.1, ip.2.commitment)) sp.id sp.commitment) : Outcome F _) <;>
      simp [eq_comm]
  | _ => simp

theorem refreshDkgShares_eq_ok (S : Suite F E) (sp : Round2Secret F E)
    (r1 : List (F × Round1Package F E)) (r2 : List (F × F)) (oldPkp : PublicKeyPackage F E)
    (oldKp : KeyPackage F E) (out : KeyPackage F E × PublicKeyPackage F E) :
    refreshDkgShares S sp r1 r2 oldPkp oldKp = .ok out ↔
      sp.minSigners = oldKp.minSigners ∧ sp.maxSigners ≠ 0 ∧ r1.length = sp.maxSigners - 1 ∧
      r1.length = r2.length ∧ (∀ a ∈ SMap.keys r1, a ∈ SMap.keys r2) ∧
      ∃ sum zero vs,
        part3Loop S sp.id (r1.map fun ip => (ip.1, (0 : E) :: ip.2.commitment)) false r2 0 =
          .ok sum ∧
        PublicKeyPackage.fromDkgCommitments (SMap.insert S.idLt
          (r1.map fun ip => (ip.1, (0 : E) :: ip.2.commitment)) sp.id ((0 : E) :: sp.commitment)) =
          .ok zero ∧
        addOldShares S oldPkp.vshares zero.vshares [] = .ok vs ∧
        out = (⟨sp.id, sum + sp.secretShare + oldKp.share,
                (sum + sp.secretShare + oldKp.share) • S.G, oldPkp.vk, sp.minSigners⟩,
               ⟨vs, oldPkp.vk, some sp.minSigners⟩) := by
  simp only [refreshDkgShares, Outcome.ite_error_eq_ok, Outcome.ite_panic_eq_ok,
    SMap.any_not_contains, SMap.keys_map_snd, List.length_map, Decidable.not_not, ne_eq]
  -- five guards on both sides, then the three `?`
  refine and_congr_right' (and_congr_right' (and_congr_right' (and_congr_right'
    (and_congr_right' ?_))))
  cases part3Loop S sp.id (r1.map fun ip => (ip.1, (0 : E) :: ip.2.commitment)) false r2 0 with
  | ok sum =>
    cases (PublicKeyPackage.fromDkgCommitments (SMap.insert S.idLt
      (r1.map fun ip => (ip.1, (0 : E) :: ip.2.commitment)) sp.id ((0 : E) :: sp.commitment)) :
        Outcome F _) with
    | ok zero =>
      simp only [Outcome.ok.injEq, exists_and_left, exists_eq_left']
      cases addOldShares S oldPkp.vshares zero.vshares [] <;> simp [eq_comm]
    | _ => simp
  | _ => simp

theorem repairSharePart1_ok {S : Suite F E} {helpers : List F} {kp : KeyPackage F E}
    {tape tape' : Tape} {p : F} {out : List (F × F)}
    (h : repairSharePart1 S helpers kp tape p = .ok (out, tape')) :
    kp.minSigners ≤ helpers.length ∧ kp.id ∈ helpers ∧
    (SMap.setOfList S.idLt helpers).length = helpers.length ∧
    ∃ rand, generateCoefficients S (helpers.length - 1) tape = some (rand, tape') ∧
      computeLastRandomValue S (SMap.setOfList S.idLt helpers) kp rand p = .ok out := by
  unfold repairSharePart1 at h
  obtain ⟨hmin, h⟩ := Outcome.ite_error_eq_ok.1 h
  obtain ⟨hself, h⟩ := Outcome.ite_error_eq_ok.1 h
  obtain ⟨hdup, h⟩ := Outcome.ite_error_eq_ok.1 h
  obtain ⟨_, h⟩ := Outcome.ite_panic_eq_ok.1 h
  split at h
  · cases h
  rename_i rand t1 hg
  split at h
  · rename_i o hl
    cases h
    exact ⟨by omega, by simpa using hself, by simpa using hdup, rand, hg, hl⟩
  · cases h
  · cases h

end Frost

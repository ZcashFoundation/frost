/-
  Frost.Proofs.NoPanic — the model's panic sites are unreachable from peer-supplied material.

  Every Rust panic site of the modelled code (`expect`, unchecked subtraction on counts,
  `remove(0)`, the multiscalar module's indexing) is an explicit `.panic` in the model.  The
  theorems say: for ARBITRARY packages, shares, commitments, identifiers … received from other
  parties, the steps return `.ok` or `.error`, given only that the caller's own state is
  honestly generated (its sizes are non-zero, its polynomial non-empty).
-/
import Frost.Model.Refresh
import Frost.Model.Repair
import Frost.Model.Batch
import Frost.Model.Taproot
import Frost.Model.Rerand
import Frost.Model.RerandPkg
import Frost.Proofs.Naf

set_option linter.unusedSectionVars false

namespace Frost

variable {F E : Type}

/-- the outcome is a value or a library error -/
def Outcome.NoPanic {α : Type} (x : Outcome F α) : Prop := ∀ s, x ≠ .panic s

@[simp] theorem NoPanic_ok {α : Type} (a : α) : (Outcome.ok a : Outcome F α).NoPanic := by
  intro s h; cases h
@[simp] theorem NoPanic_error {α : Type} (e : Err F) : (Outcome.error e : Outcome F α).NoPanic := by
  intro s h; cases h

theorem NoPanic_ofOption {α : Type} (o : Option α) (e : Err F) : (Outcome.ofOption o e).NoPanic := by
  cases o <;> simp [Outcome.ofOption]

/-- the optional trait methods do not panic (`C14.hooks_default` for the suites without hooks,
    `hooks_taproot` for the Taproot suite) -/
structure HooksNoPanic (S : Suite F E) : Prop where
  challenge : ∀ R vk msg, (S.challenge R vk msg).NoPanic
  verifyShare : ∀ R z id Rs Y lam c, (S.verifyShare R z id Rs Y lam c).NoPanic
  serializeSignature : ∀ sg, (S.serializeSignature sg).NoPanic
  deserializeSignature : ∀ b, (S.deserializeSignature b).NoPanic

theorem NoPanic_ite {α : Type} {c : Prop} [Decidable c] {a b : Outcome F α}
    (ha : a.NoPanic) (hb : b.NoPanic) : (if c then a else b).NoPanic := by
  split <;> assumption

theorem encElemO_np {B : Base F E} {e : E} : (B.encElemO e).NoPanic := NoPanic_ofOption _ _

-- what stands above needs no operation of `F` or `E`, and so takes no instance argument; every
-- theorem below takes all fourteen, whichever of them its model function uses
variable [Add F] [Mul F] [Sub F] [Neg F] [Zero F] [One F] [Inv F] [DecidableEq F]
variable [Add E] [Sub E] [Neg E] [Zero E] [SMul F E] [DecidableEq E]

/-- `np_bind h`, with `h : x.NoPanic`, on a goal
    `(match x with | .ok a => f a | .error e => .error e | .panic s => .panic s).NoPanic`
    leaves `(f a).NoPanic`: an error is passed on, and `x` is no panic.  (The model writes its
    `?` as explicit matches; a lemma stated with `match` gets a matcher constant of its own, and
    the elaborator unfolds neither against the other while `x` is stuck.) -/
macro "np_bind " h:term : tactic =>
  `(tactic| (split <;> [skip; exact NoPanic_error _; (rename_i hp; exact absurd hp ($h _))]))

/-! From here on `S`, `B` and the arguments of the model function a lemma is about are implicit:
    each lemma is about every call of its function, and a caller's goal fixes them.  (Explicit
    stay the binders of the two fixed statements `hooks_taproot`, `batchVerify_np`, and what an
    induction quantifies over.) -/

variable {S : Suite F E} {B : Base F E} {pkg : SigningPackage F E} {nonces : SigningNonces F E}
  {kp : KeyPackage F E} {pkp : PublicKeyPackage F E} {bfl shares : List (F × F)}
  {mode : CheaterDetection} {vk R Y : E} {id z c : F} {msg pre seed : Bytes}
  {sig : Signature F E} {ss : SecretShare F E} {cs : List (F × SigningCommitments E)}

theorem encodeGroupCommitments_np : (encodeGroupCommitments S cs).NoPanic := by
  induction cs with
  | nil => exact NoPanic_ok _
  | cons c rest ih =>
    unfold encodeGroupCommitments
    np_bind encElemO_np
    np_bind encElemO_np
    np_bind ih
    exact NoPanic_ok _

theorem bindingFactorPreimages_np : (bindingFactorPreimages S pkg vk pre).NoPanic := by
  unfold bindingFactorPreimages
  np_bind encElemO_np
  np_bind encodeGroupCommitments_np
  exact NoPanic_ok _

theorem computeBindingFactorList_np : (computeBindingFactorList S pkg vk pre).NoPanic := by
  unfold computeBindingFactorList
  np_bind bindingFactorPreimages_np
  exact NoPanic_ok _

theorem gcLoop_np (bfl : List (F × F)) :
    ∀ (cs : List (F × SigningCommitments E)) (st : E × List F × List E),
      st.2.1.length = st.2.2.length →
      (gcLoop bfl cs st).NoPanic ∧
      ∀ r, gcLoop bfl cs st = .ok r → r.2.1.length = r.2.2.length := by
  intro cs
  induction cs with
  | nil =>
    intro st h
    refine ⟨NoPanic_ok _, ?_⟩
    intro r hr
    cases hr; exact h
  | cons c rest ih =>
    intro st h
    obtain ⟨id, c⟩ := c
    obtain ⟨gc, ss, es⟩ := st
    unfold gcLoop
    split
    · exact ⟨NoPanic_error _, by intro r hr; cases hr⟩
    · split
      · exact ⟨NoPanic_error _, by intro r hr; cases hr⟩
      · exact ih _ (by simpa using h)

/-- **`compute_group_commitment` never panics**: the multiscalar multiplication always gets as
    many scalars as elements, and never indexes out of bounds -/
theorem computeGroupCommitment_np : (computeGroupCommitment S pkg bfl).NoPanic := by
  unfold computeGroupCommitment
  obtain ⟨h1, h2⟩ := gcLoop_np bfl pkg.commitments ((0 : E), [], []) rfl
  split
  · rename_i gc ss es hl
    have := (vartimeMultiscalarMul_isSome (E := E) S.leBytes ss es).2 (h2 _ hl)
    split
    · exact NoPanic_ok _
    · rename_i hm
      rw [hm] at this
      cases this
  · exact NoPanic_error _
  · rename_i hp; exact absurd hp (h1 _)

theorem computeLagrangeCoefficient_np {xs : List F} {x : Option F} {xi : F} :
    (computeLagrangeCoefficient xs x xi).NoPanic := by
  unfold computeLagrangeCoefficient
  refine NoPanic_ite (NoPanic_error _) ?_
  split
  exact NoPanic_ite (NoPanic_error _) (NoPanic_ite (NoPanic_error _) (NoPanic_ok _))

theorem deriveInterpolatingValue_np : (deriveInterpolatingValue id pkg).NoPanic :=
  computeLagrangeCoefficient_np

theorem signCore_np (H : HooksNoPanic S) : (signCore S pkg nonces kp bfl).NoPanic := by
  unfold signCore
  split
  · exact NoPanic_error _
  np_bind computeGroupCommitment_np
  np_bind deriveInterpolatingValue_np
  np_bind H.challenge _ _ _
  exact NoPanic_ok _

/-- **`round2::sign` never panics**, whatever signing package the coordinator sends -/
theorem sign_np (H : HooksNoPanic S) : (sign S pkg nonces kp).NoPanic := by
  unfold sign
  refine NoPanic_ite (NoPanic_error _) ?_
  split
  · exact NoPanic_error _
  refine NoPanic_ite (NoPanic_error _) ?_
  dsimp only
  np_bind computeBindingFactorList_np
  exact signCore_np H

theorem verifyPrehashed_np : (B.verifyPrehashed vk c sig).NoPanic :=
  NoPanic_ite (NoPanic_ok _) (NoPanic_error _)

theorem verifySignature_np (H : HooksNoPanic S) : (verifySignature S vk msg sig).NoPanic := by
  unfold verifySignature
  dsimp only
  np_bind H.challenge _ _ _
  exact verifyPrehashed_np

theorem verifySignatureSharePrecomputed_np (H : HooksNoPanic S) :
    (verifySignatureSharePrecomputed S id pkg bfl R z Y c).NoPanic := by
  unfold verifySignatureSharePrecomputed
  np_bind deriveInterpolatingValue_np
  split
  · exact NoPanic_error _
  split
  · exact NoPanic_error _
  exact H.verifyShare _ _ _ _ _ _ _

theorem detectLoop_np (H : HooksNoPanic S) {vshares : List (F × E)} {first : Bool} :
    ∀ (shares : List (F × F)) (culprits : List F),
      (detectLoop S pkg bfl R c vshares first shares culprits).NoPanic := by
  intro shares
  induction shares with
  | nil => intro culprits; exact NoPanic_ok _
  | cons s rest ih =>
    intro culprits
    unfold detectLoop
    split
    · exact NoPanic_error _
    split
    · exact ih _
    · exact NoPanic_ite (NoPanic_ok _) (ih _)
    · exact NoPanic_error _
    · rename_i hp; exact absurd hp (verifySignatureSharePrecomputed_np H _)

theorem detectCheater_np (H : HooksNoPanic S) : (detectCheater S R pkp pkg shares bfl mode).NoPanic := by
  unfold detectCheater
  np_bind H.challenge _ _ _
  np_bind detectLoop_np H _ _
  exact NoPanic_ite (NoPanic_error _) (NoPanic_error _)

theorem aggregateCore_np (H : HooksNoPanic S) : (aggregateCore S pkg shares pkp mode bfl).NoPanic := by
  unfold aggregateCore
  np_bind computeGroupCommitment_np
  dsimp only
  split
  · rename_i hp; exact absurd hp (verifySignature_np H _)
  · exact NoPanic_ok _
  · split
    · exact NoPanic_error _
    · np_bind detectCheater_np H
      exact NoPanic_ok _

/-- **`aggregate` / `aggregate_custom` never panic**, whatever signing package, signature
    shares and public key package they are given, in every cheater-detection mode -/
theorem aggregateCustom_np (H : HooksNoPanic S) : (aggregateCustom S pkg shares pkp mode).NoPanic := by
  unfold aggregateCustom
  refine NoPanic_ite (NoPanic_error _) <| NoPanic_ite (NoPanic_error _) <|
    NoPanic_ite (NoPanic_error _) ?_
  dsimp only
  np_bind computeBindingFactorList_np
  exact aggregateCore_np H

theorem defaultChallenge_np : (B.defaultChallenge R vk msg).NoPanic := by
  unfold Base.defaultChallenge
  np_bind encElemO_np
  np_bind encElemO_np
  exact NoPanic_ok _

theorem shareVerify_np {Rs : E} {lam : F} : (B.shareVerify z id Rs Y lam c).NoPanic :=
  NoPanic_ite (NoPanic_error _) (NoPanic_ok _)

theorem defaultSerializeSignature_np : (B.defaultSerializeSignature sig).NoPanic := by
  unfold Base.defaultSerializeSignature
  np_bind encElemO_np
  exact NoPanic_ok _

theorem defaultDeserializeSignature_np {b : Bytes} : (B.defaultDeserializeSignature b).NoPanic := by
  unfold Base.defaultDeserializeSignature
  split
  · exact NoPanic_error _
  · rename_i hp; exact absurd hp (encElemO_np _)
  · refine NoPanic_ite (NoPanic_error _) ?_
    split
    · exact NoPanic_error _
    · split
      · exact NoPanic_error _
      · exact NoPanic_ok _

/-- the Taproot ciphersuite's overrides -/
theorem hooks_taproot (B : Base F E) (P : TrParams F E) : HooksNoPanic (Suite.taproot B P) := by
  refine ⟨fun R vk msg => NoPanic_ok _, fun R z id Rs Y lam c => shareVerify_np,
    fun sg => ?_, fun b => ?_⟩
  · show (match B.encElemO sg.R with
      | .ok rb => (.ok (rb.drop 1 ++ B.encScalar sg.z) : Outcome F Bytes)
      | .error e => .error e
      | .panic s => .panic s).NoPanic
    np_bind encElemO_np
    exact NoPanic_ok _
  · show (if b.length ≠ 64 then (.error .MalformedSignature : Outcome F (Signature F E))
      else
        match B.decElem ((2 : UInt8) :: b.take 32) with
        | .error err => .error err
        | .ok R =>
          match B.decScalar (b.drop 32) with
          | none => .error .FieldMalformedScalar
          | some z => .ok ⟨R, z⟩).NoPanic
    refine NoPanic_ite (NoPanic_error _) ?_
    split
    · exact NoPanic_error _
    · split
      · exact NoPanic_error _
      · exact NoPanic_ok _

/-! ### key material received from a dealer or from other participants -/

theorem secretShare_verify_np : (ss.verify S).NoPanic := by
  unfold SecretShare.verify
  refine NoPanic_ite (NoPanic_error _) ?_
  split
  · exact NoPanic_error _
  · exact NoPanic_ok _

/-- **`KeyPackage::try_from(SecretShare)` never panics**, whatever the dealer sent -/
theorem keyPackage_tryFrom_np : (KeyPackage.tryFrom S ss).NoPanic := by
  unfold KeyPackage.tryFrom
  np_bind secretShare_verify_np
  exact NoPanic_ok _

theorem addCommitment_np : ∀ (g c : List E), (addCommitment g c : Outcome F (List E)).NoPanic := by
  intro g
  induction g with
  | nil => intro c; exact NoPanic_ok _
  | cons x xs ih =>
    intro c
    cases c with
    | nil => exact NoPanic_error _
    | cons y ys =>
      unfold addCommitment
      np_bind ih ys
      exact NoPanic_ok _

theorem sumLoop_np :
    ∀ (cs : List (List E)) (acc : List E), (sumLoop cs acc : Outcome F (List E)).NoPanic := by
  intro cs
  induction cs with
  | nil => intro acc; exact NoPanic_ok _
  | cons c rest ih =>
    intro acc
    unfold sumLoop
    np_bind addCommitment_np (F := F) acc c
    exact ih _

/-- commitment vectors of any (mutually inconsistent) lengths are summed without panicking -/
theorem sumCommitments_np (cs : List (List E)) : (sumCommitments cs : Outcome F (List E)).NoPanic := by
  unfold sumCommitments
  split
  · exact NoPanic_error _
  · exact sumLoop_np _ _

theorem fromCommitment_np {ids : List F} {gc : List E} :
    (PublicKeyPackage.fromCommitment ids gc).NoPanic := by
  unfold PublicKeyPackage.fromCommitment
  dsimp only
  split
  · exact NoPanic_error _
  · exact NoPanic_ok _

theorem fromDkgCommitments_np {cm : List (F × List E)} :
    (PublicKeyPackage.fromDkgCommitments cm).NoPanic := by
  unfold PublicKeyPackage.fromDkgCommitments
  np_bind sumCommitments_np (F := F) (SMap.values cm)
  exact fromCommitment_np

theorem reconstructLoop_np {ids : List F} :
    ∀ (kps : List (KeyPackage F E)) (acc : F), (reconstructLoop ids kps acc).NoPanic := by
  intro kps
  induction kps with
  | nil => intro acc; exact NoPanic_ok _
  | cons kp rest ih =>
    intro acc
    unfold reconstructLoop
    np_bind computeLagrangeCoefficient_np
    exact ih _

theorem dkgChallenge_np : (dkgChallenge S id vk R).NoPanic := by
  unfold dkgChallenge
  np_bind encElemO_np
  np_bind encElemO_np
  exact NoPanic_ofOption _ _

theorem verifyProofOfKnowledge_np {gc : List E} {pok : Signature F E} :
    (verifyProofOfKnowledge S id gc pok).NoPanic := by
  unfold verifyProofOfKnowledge
  split
  · exact NoPanic_error _
  np_bind dkgChallenge_np
  exact NoPanic_ite (NoPanic_error _) (NoPanic_ok _)

/-- the only panic site of polynomial evaluation is the empty polynomial -/
theorem evaluatePolynomial_np {x : F} {coeffs : List F} (h : coeffs ≠ []) :
    (evaluatePolynomial x coeffs).NoPanic := by
  cases coeffs with
  | nil => exact absurd rfl h
  | cons c rest => exact NoPanic_ok _

theorem part2Loop_np {coeffs : List F} (h : coeffs ≠ []) :
    ∀ (r1 : List (F × Round1Package F E)), (part2Loop S coeffs r1).NoPanic := by
  intro r1
  induction r1 with
  | nil => exact NoPanic_ok _
  | cons p rest ih =>
    unfold part2Loop
    np_bind verifyProofOfKnowledge_np
    np_bind evaluatePolynomial_np h
    np_bind ih
    exact NoPanic_ok _

theorem part3Loop_np {me : F} {r1 : List (F × List E)} {culprit : Bool} :
    ∀ (r2 : List (F × F)) (acc : F), (part3Loop S me r1 culprit r2 acc).NoPanic := by
  intro r2
  induction r2 with
  | nil => intro acc; exact NoPanic_ok _
  | cons p rest ih =>
    intro acc
    unfold part3Loop
    split
    · exact NoPanic_error _
    split
    · exact ih _
    · exact NoPanic_error _
    · exact NoPanic_error _
    · rename_i hp; exact absurd hp (secretShare_verify_np _)

theorem refreshPart2Loop_np {min : Nat} {coeffs : List F} (h : coeffs ≠ []) :
    ∀ (r1 : List (F × Round1Package F E)), (refreshPart2Loop min coeffs r1).NoPanic := by
  intro r1
  induction r1 with
  | nil => exact NoPanic_ok _
  | cons p rest ih =>
    unfold refreshPart2Loop
    refine NoPanic_ite (NoPanic_error _) ?_
    np_bind evaluatePolynomial_np h
    np_bind ih
    exact NoPanic_ok _

theorem addOldShares_np {old : List (F × E)} :
    ∀ (l acc : List (F × E)), (addOldShares (F := F) S old l acc).NoPanic := by
  intro l
  induction l with
  | nil => intro acc; exact NoPanic_ok _
  | cons p rest ih =>
    intro acc
    unfold addOldShares
    split
    · exact NoPanic_error _
    · exact ih _

theorem randomizerRegenerate_np : (randomizerRegenerate S seed cs).NoPanic := by
  unfold randomizerRegenerate
  np_bind encodeGroupCommitments_np
  exact NoPanic_ofOption _ _

theorem signWithRandomizerSeed_np (H : HooksNoPanic S) :
    (signWithRandomizerSeed S pkg nonces kp seed).NoPanic := by
  have hp : (RandomizedParams.regenerate S kp.vk seed pkg.commitments).NoPanic := by
    unfold RandomizedParams.regenerate
    np_bind randomizerRegenerate_np
    exact NoPanic_ok _
  unfold signWithRandomizerSeed
  np_bind hp
  exact sign_np H

/-- the package-based randomizer (deprecated `Randomizer::new` after its draw) -/
theorem randomizerFromScalarAndPackage_np {hdr : Bytes} {r0 : F} :
    (randomizerFromScalarAndPackage S hdr r0 pkg).NoPanic := by
  unfold randomizerFromScalarAndPackage
  split
  · exact NoPanic_error _
  · exact NoPanic_ofOption _ _

theorem batchLoop_lengths :
    ∀ (items : List (BatchItem F E)) (acc : BatchAcc F E) (t : Tape) (acc' : BatchAcc F E) (t' : Tape),
      acc.vkCoeffs.length = acc.vks.length → acc.rCoeffs.length = acc.rs.length →
      batchLoop S items acc t = some (acc', t') →
      acc'.vkCoeffs.length = acc'.vks.length ∧ acc'.rCoeffs.length = acc'.rs.length := by
  intro items
  induction items with
  | nil =>
    intro acc t acc' t' h1 h2 h
    cases h
    exact ⟨h1, h2⟩
  | cons it rest ih =>
    intro acc t acc' t' h1 h2 h
    unfold batchLoop at h
    split at h
    · cases h
    · exact ih _ _ _ _ (by simpa using h1) (by simpa using h2) h

/-- **batch verification never panics** on any queued items (as long as the random source
    delivers): the multiscalar multiplication gets `2n+1` scalars and `2n+1` points -/
theorem batchVerify_np (S : Suite F E) (items : List (BatchItem F E)) (t : Tape)
    (htape : (batchLoop S items ⟨0, [], [], [], []⟩ t).isSome) : (batchVerify S items t).NoPanic := by
  unfold batchVerify
  refine NoPanic_ite (NoPanic_error _) ?_
  split
  · rename_i hb
    rw [hb] at htape
    cases htape
  · rename_i acc t' hb
    obtain ⟨h1, h2⟩ := batchLoop_lengths items _ t acc t' rfl rfl hb
    have := (vartimeMultiscalarMul_isSome (E := E) S.leBytes
      ([acc.pAcc] ++ acc.vkCoeffs ++ acc.rCoeffs) ([S.G] ++ acc.vks ++ acc.rs)).2 (by simp [h1, h2])
    dsimp only
    split
    · rename_i hm
      rw [hm] at this
      cases this
    · exact NoPanic_ite (NoPanic_ok _) (NoPanic_error _)

end Frost

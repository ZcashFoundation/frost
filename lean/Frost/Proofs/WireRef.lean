/-
  Frost.Proofs.WireRef — the codecs of the executable reference suites.  Scalars
  (little- / big-endian fixed-width encodings of integers below the group order,
  Frost.Ref.decLE / decBE): canonical, out-of-range rejected, wrong length rejected.
  Elements: the SEC1 decoder accepts the tags 02 / 03 only and is canonical, the Ed448
  decoder is canonical.  The little-endian toy suites satisfy every codec law of Frost.Proofs.Wire.
-/
import Frost.Ref.Suites
import Frost.Proofs.Wire

namespace Frost
namespace Ref

theorem length_natToLE (n len : Nat) : (natToLE n len).length = len := by
  induction len generalizing n with
  | zero => rfl
  | succ k ih => simp [natToLE, ih]

theorem leToNat_cons (x : UInt8) (xs : List UInt8) : leToNat (x :: xs) = x.toNat + 256 * leToNat xs := rfl

theorem leToNat_lt (b : List UInt8) : leToNat b < 256 ^ b.length := by
  induction b with
  | nil => simp [leToNat]
  | cons x xs ih =>
    rw [leToNat_cons, List.length_cons, Nat.pow_succ']
    calc x.toNat + 256 * leToNat xs < 256 + 256 * leToNat xs := Nat.add_lt_add_right x.toNat_lt _
      _ = 256 * (leToNat xs + 1) := by rw [Nat.mul_succ, Nat.add_comm]
      _ ≤ 256 * 256 ^ xs.length := Nat.mul_le_mul_left 256 ih

theorem leToNat_natToLE (n len : Nat) : leToNat (natToLE n len) = n % 256 ^ len := by
  induction len generalizing n with
  | zero => simp [natToLE, leToNat, Nat.mod_one]
  | succ k ih =>
    have h1 : (UInt8.ofNat (n % 256)).toNat = n % 256 := UInt8.toNat_ofNat_of_lt' (Nat.mod_lt _ (by norm_num))
    rw [natToLE, leToNat_cons, ih, h1, pow_succ, Nat.mul_comm (256 ^ k) 256, Nat.mod_mul]

theorem natToLE_leToNat (b : List UInt8) : natToLE (leToNat b) b.length = b := by
  induction b with
  | nil => rfl
  | cons x xs ih =>
    rw [leToNat_cons, List.length_cons, natToLE, Nat.add_mul_mod_self_left,
      Nat.mod_eq_of_lt x.toNat_lt, Nat.add_mul_div_left _ _ (by decide),
      Nat.div_eq_of_lt x.toNat_lt, Nat.zero_add, ih, UInt8.ofNat_toNat]

/-! the model's and the toy suite's own conversions are the reference ones -/

theorem toyNatToLE_eq (len n : Nat) : toyNatToLE len n = natToLE n len := by
  induction len generalizing n with
  | zero => rfl
  | succ k ih => simp [toyNatToLE, natToLE, ih]

theorem leNat_eq (b : Bytes) : leNat b = leToNat b := by
  induction b with
  | nil => rfl
  | cons x xs ih => simp [leNat, leToNat_cons, ih]

theorem beToNat_eq (b : List UInt8) : beToNat b = leToNat b.reverse := by
  unfold beToNat leToNat
  rw [List.foldr_reverse]
  congr 1
  funext acc x
  rw [Nat.add_comm, Nat.mul_comm]

theorem length_natToBE (n len : Nat) : (natToBE n len).length = len := by
  simp [natToBE, length_natToLE]

theorem beToNat_natToBE (n len : Nat) : beToNat (natToBE n len) = n % 256 ^ len := by
  rw [beToNat_eq, natToBE, List.reverse_reverse, leToNat_natToLE]

theorem natToBE_beToNat (b : List UInt8) : natToBE (beToNat b) b.length = b := by
  rw [beToNat_eq, natToBE, ← List.length_reverse, natToLE_leToNat, List.reverse_reverse]

theorem decLE_enc (q len : Nat) (hq : q ≤ 256 ^ len) (s : Fq q) (hs : s.val < q) :
    decLE q len (natToLE s.val len) = some s := by
  have hv : leToNat (natToLE s.val len) = s.val := by
    rw [leToNat_natToLE, Nat.mod_eq_of_lt (Nat.lt_of_lt_of_le hs hq)]
  unfold decLE
  rw [if_pos ⟨length_natToLE _ _, by rw [hv]; exact hs⟩, hv]

theorem decLE_canonical (q len : Nat) (b : Bytes) (s : Fq q) (h : decLE q len b = some s) :
    natToLE s.val len = b ∧ s.val < q ∧ b.length = len := by
  obtain ⟨hc, hs⟩ := Option.ite_none_right_eq_some.1 h
  cases hs
  exact ⟨hc.1 ▸ natToLE_leToNat b, hc.2, hc.1⟩

theorem decLE_out_of_range (q len : Nat) (b : Bytes) (h : q ≤ leToNat b) : decLE q len b = none :=
  if_neg fun hc => Nat.not_lt.2 h hc.2

theorem decLE_wrong_length (q len : Nat) (b : Bytes) (h : b.length ≠ len) : decLE q len b = none :=
  if_neg fun hc => h hc.1

/-- big-endian is little-endian read backwards: the four `decBE` laws are the `decLE` laws -/
theorem decBE_eq (q len : Nat) (b : Bytes) : decBE q len b = decLE q len b.reverse := by
  rw [decBE, decLE, beToNat_eq, List.length_reverse]

theorem decBE_enc (q len : Nat) (hq : q ≤ 256 ^ len) (s : Fq q) (hs : s.val < q) :
    decBE q len (natToBE s.val len) = some s := by
  rw [decBE_eq, natToBE, List.reverse_reverse]; exact decLE_enc q len hq s hs

theorem decBE_canonical (q len : Nat) (b : Bytes) (s : Fq q) (h : decBE q len b = some s) :
    natToBE s.val len = b ∧ s.val < q ∧ b.length = len := by
  obtain ⟨h1, h2, h3⟩ := decLE_canonical q len b.reverse s (decBE_eq q len b ▸ h)
  exact ⟨by rw [natToBE, h1, List.reverse_reverse], h2, b.length_reverse ▸ h3⟩

theorem decBE_out_of_range (q len : Nat) (b : Bytes) (h : q ≤ beToNat b) : decBE q len b = none := by
  rw [decBE_eq]; exact decLE_out_of_range q len _ (beToNat_eq b ▸ h)

theorem decBE_wrong_length (q len : Nat) (b : Bytes) (h : b.length ≠ len) : decBE q len b = none := by
  rw [decBE_eq]; exact decLE_wrong_length q len _ (b.length_reverse.symm ▸ h)

theorem leToNat_append (a b : List UInt8) : leToNat (a ++ b) = leToNat a + 256 ^ a.length * leToNat b := by
  induction a with
  | nil => simp [leToNat]
  | cons x xs ih => rw [List.cons_append, leToNat_cons, ih, leToNat_cons, List.length_cons, pow_succ]; ring

/-- a string with a non-zero last byte denotes at least `256 ^ (length - 1)`: if the modulus is
    below that, the scalar decoder rejects it (Ed448: 57 bytes, `q < 2 ^ 446`) -/
theorem decLE_last_byte (q len : Nat) (hq : q ≤ 256 ^ len) (b : Bytes) (hl : b.length = len + 1)
    (h : b.getLast? ≠ some 0) : decLE q (len + 1) b = none := by
  apply decLE_out_of_range
  rcases List.eq_nil_or_concat b with rfl | ⟨init, last, rfl⟩
  · cases hl
  · have hinit : init.length = len := by simpa using hl
    have h1 : 1 ≤ last.toNat := Nat.pos_of_ne_zero fun h0 =>
      h (by rw [List.concat_eq_append, List.getLast?_concat, (UInt8.toNat_inj.1 h0 : last = 0)])
    rw [List.concat_eq_append, leToNat_append, hinit, leToNat_cons]
    calc q ≤ 256 ^ len * 1 := by rwa [Nat.mul_one]
      _ ≤ 256 ^ len * (last.toNat + 256 * leToNat []) := Nat.mul_le_mul_left _ (Nat.le_add_right_of_le h1)
      _ ≤ _ := Nat.le_add_left _ _

theorem powModFuel_lt (p : Nat) (hp : 0 < p) :
    ∀ (fuel b e acc : Nat), acc < p → powModFuel p fuel b e acc < p := by
  intro fuel
  induction fuel with
  | zero => exact fun _ _ _ h => h
  | succ k ih =>
    intro b e acc h
    have hacc' : (if e % 2 == 1 then acc * b % p else acc) < p := by
      split
      · exact Nat.mod_lt _ hp
      · exact h
    rw [powModFuel]
    split
    · exact hacc'
    · exact ih _ _ _ hacc'

theorem powMod_lt (b e p : Nat) (hp : 0 < p) : powMod b e p < p :=
  powModFuel_lt p hp _ _ _ _ (Nat.mod_lt _ hp)

namespace WeiCurve

/-- what an accepted SEC1 string looks like -/
theorem dec_eq_some {c : WeiCurve} {b : Bytes} {P : WPoint} (h : c.dec b = some P) :
    ∃ tag rest y, b = tag :: rest ∧ rest.length = 32 ∧ (tag = 2 ∨ tag = 3) ∧ y < c.p ∧
      P = .aff (beToNat rest) (if (y &&& 1) != (tag.toNat &&& 1) then c.p - y else y) := by
  cases b with
  | nil => cases h
  | cons tag rest =>
    simp only [WeiCurve.dec, Option.ite_none_left_eq_some, Option.some.injEq] at h
    obtain ⟨hc, hx, -, rfl⟩ := h
    simp only [Bool.or_eq_true, bne_iff_ne, ne_eq, Bool.not_eq_true', Bool.or_eq_false_iff,
      beq_eq_false_iff_ne, not_or, not_and, Decidable.not_not, List.length_cons] at hc
    exact ⟨tag, rest, _, rfl, Nat.succ.inj hc.1, (Decidable.em (tag = 2)).imp_right hc.2,
      powMod_lt _ _ _ (Nat.zero_lt_of_lt (Nat.not_le.1 hx)), rfl⟩

end WeiCurve

/-- the compressed-point decoder accepts the tags `02` and `03` only (in particular not the
    "compact" tag `05`, nor `00`/`04`), and only 33-byte strings -/
theorem sec1_tag (c : WeiCurve) (b : Bytes) (P : WPoint) (h : c.dec b = some P) :
    b.length = 33 ∧ (b.head? = some 2 ∨ b.head? = some 3) := by
  obtain ⟨tag, rest, y, rfl, hlen, htag, -⟩ := WeiCurve.dec_eq_some h
  exact ⟨congrArg (· + 1) hlen, htag.imp (congrArg some) (congrArg some)⟩

theorem parity_flip : ∀ a < 2, ∀ c < 2, ∀ t < 2, c ≠ t → (a + c) % 2 = 1 → a = t := by decide

/-- for odd `p`, exactly one of `y`, `p - y` has a given parity -/
theorem sub_parity (p y t : Nat) (hp : p % 2 = 1) (hy : y ≤ p) (ht : t < 2) (h : y % 2 ≠ t) :
    (p - y) % 2 = t :=
  parity_flip _ (Nat.mod_lt _ (by decide)) _ (Nat.mod_lt _ (by decide)) t ht h
    (by rw [← Nat.add_mod, Nat.sub_add_cancel hy, hp])

/-- the root the decoder returns has the parity the tag asks for -/
theorem pickRoot_parity (p y : Nat) (hp : p % 2 = 1) (hy : y < p) (t : Nat) (ht : t < 2) :
    ((if (y &&& 1) != t then p - y else y) &&& 1) = t := by
  simp only [Nat.and_one_is_mod, bne_iff_ne, ne_eq]
  split
  · rename_i h
    exact sub_parity p y t hp hy.le ht h
  · rename_i h
    exact Decidable.not_not.1 h

/-- an accepted SEC1 string is exactly the encoding of the decoded point (odd field prime):
    the decoder picks the root whose parity is the tag's low bit, and `p - y` flips parity -/
theorem wei_dec_canonical (c : WeiCurve) (hp : c.p % 2 = 1) (b : Bytes) (P : WPoint)
    (h : c.dec b = some P) : c.enc P = some b := by
  obtain ⟨tag, rest, y, rfl, hlen, htag, hy, rfl⟩ := WeiCurve.dec_eq_some h
  have hx : natToBE (beToNat rest) 32 = rest := hlen ▸ natToBE_beToNat rest
  have hpar := pickRoot_parity c.p y hp hy
  simp only [WeiCurve.enc, hx]
  rcases htag with rfl | rfl
  · rw [show ((2 : UInt8).toNat &&& 1) = 0 from rfl, hpar 0 (by decide)]; rfl
  · rw [show ((3 : UInt8).toNat &&& 1) = 1 from rfl, hpar 1 (by decide)]; rfl

theorem ite_error_eq_ok {ε α : Type} {c : Prop} [Decidable c] {e : ε} {x : Except ε α} {v : α} :
    (if c then .error e else x) = .ok v ↔ ¬ c ∧ x = .ok v := by
  by_cases hc : c
  · rw [if_pos hc]; exact ⟨nofun, fun h => absurd hc h.1⟩
  · rw [if_neg hc]; exact ⟨fun h => ⟨hc, h⟩, fun h => h.2⟩

/-- Ed448: the decoder's last step compares the re-encoding with its input, so acceptance
    implies canonicity -/
theorem ed448_dec_canonical (b : Bytes) (e : EE ed448) (h : ed448DecE b = .ok e) :
    ed448Base.encElem e = some b := by
  rw [ed448DecE, ite_error_eq_ok] at h
  cases hd : ed448Decompress b with
  | none => rw [hd] at h; cases h.2
  | some P =>
    simp only [hd, ed448Finish, ite_error_eq_ok, Except.ok.injEq, bne_iff_ne, ne_eq,
      Decidable.not_not, beq_iff_eq] at h
    obtain ⟨-, hid, -, henc, rfl⟩ := h
    simp only [ed448Base, if_neg hid, henc]

def okS31 (s : Fq q31) : Prop := s.val < q31
def okE31 (e : Gq q31) : Prop := e.val < q31

section toy
variable (q g : Nat) (name : String)

/-- the toy codec (little-endian variant) is the reference little-endian codec -/
theorem toyBase_encScalar (s : Fq q) :
    (toyBase q g false name).encScalar s = natToLE s.val 4 := toyNatToLE_eq 4 s.val

theorem toyBase_decScalar (b : Bytes) :
    (toyBase q g false name).decScalar b = decLE q 4 b := by
  show (if b.length = 4 ∧ leNat b < q then some (⟨leNat b⟩ : Fq q) else none) = _
  rw [leNat_eq]; rfl

theorem toyBase_encElem_eq_some {e : Gq q} {b : Bytes} :
    (toyBase q g false name).encElem e = some b ↔ e.val ≠ 0 ∧ natToLE e.val 4 = b := by
  show (if e.val = 0 then none else some (toyNatToLE 4 e.val)) = some b ↔ _
  rw [toyNatToLE_eq, Option.ite_none_left_eq_some, Option.some.injEq]

theorem toyBase_decElem (b : Bytes) :
    (toyBase q g false name).decElem b =
      match decLE q 4 b with
      | some s => if s.val = 0 then .error .GroupInvalidIdentityElement else .ok ⟨s.val⟩
      | none => .error .GroupMalformedElement := by
  show (if b.length = 4 ∧ leNat b < q then
      (if leNat b = 0 then (.error .GroupInvalidIdentityElement : Except (Err (Fq q)) (Gq q))
        else .ok ⟨leNat b⟩)
    else .error .GroupMalformedElement) = _
  rw [leNat_eq, decLE]; split <;> rfl

/-- every little-endian toy suite satisfies the codec laws, for reduced values: the instance that
    shows the round-trip theorems are not vacuous -/
theorem toy_laws (hq : q ≤ 256 ^ 4) :
    Wire.BaseLaws (toyBase q g false name) (fun s => s.val < q) (fun e => e.val < q) where
  scalar_len s := by rw [toyBase_encScalar]; exact length_natToLE _ _
  scalar_rt s hs := by rw [toyBase_encScalar, toyBase_decScalar]; exact decLE_enc q 4 hq s hs
  elem_len e b h := by
    obtain ⟨-, rfl⟩ := (toyBase_encElem_eq_some q g name).1 h
    exact length_natToLE _ _
  elem_rt e b he h := by
    obtain ⟨hne, rfl⟩ := (toyBase_encElem_eq_some q g name).1 h
    rw [toyBase_decElem, decLE_enc q 4 hq ⟨e.val⟩ he]
    exact if_neg hne

theorem toy_canon : Wire.BaseCanon (toyBase q g false name) where
  scalar b s _ h := by
    rw [toyBase_decScalar] at h
    rw [toyBase_encScalar]
    exact (decLE_canonical q 4 b s h).1
  elem b e _ h := by
    rw [toyBase_decElem] at h
    split at h
    · rename_i s hd
      split at h
      · cases h
      · rename_i hne
        cases h
        exact (toyBase_encElem_eq_some q g name).2 ⟨hne, (decLE_canonical q 4 b s hd).1⟩
    · cases h

end toy

theorem toy31_laws : Wire.BaseLaws toy31.toBase okS31 okE31 := toy_laws q31 7 "TOY31" (by decide)
theorem toy31_canon : Wire.BaseCanon toy31.toBase := toy_canon q31 7 "TOY31"

/-- codec canonicity of the Weierstrass reference suites (P-256, secp256k1, and the Taproot
    suite's base): scalars big-endian below the group order, SEC1 compressed points -/
theorem wei_canon (c : WeiCurve) (ctx : String) (hp : c.p % 2 = 1) : Wire.BaseCanon (weiBase c ctx) where
  scalar b s _ h := (decBE_canonical c.n 32 b s h).1
  elem b e _ h := by
    simp only [weiBase] at h
    split at h
    · cases h; exact wei_dec_canonical c hp b _ ‹_›
    · cases h

end Ref
end Frost


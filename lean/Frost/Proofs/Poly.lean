/-
  Frost.Proofs.Poly — the model's polynomial / VSS evaluation and the
  `u16 → Identifier` loop, related to ordinary algebra.
-/
import Frost.Model.Poly
import Mathlib.Algebra.Field.Basic
import Mathlib.Algebra.Module.Basic
import Mathlib.Algebra.BigOperators.Group.List.Basic
import Mathlib.Tactic.Ring

set_option linter.unusedSectionVars false

namespace Frost

variable {F E : Type} [Field F] [DecidableEq F] [AddCommGroup E] [Module F E]

/-- value of the polynomial with coefficient list `cs` (constant term first) at `x` -/
def hornerR (cs : List F) (x : F) : F := cs.foldr (fun c acc => c + x * acc) 0

@[simp] theorem hornerR_nil (x : F) : hornerR [] x = 0 := rfl
@[simp] theorem hornerR_cons (c : F) (cs : List F) (x : F) :
    hornerR (c :: cs) x = c + x * hornerR cs x := rfl

theorem horner_fold (rest : List F) (x : F) :
    rest.foldr (fun c v => (v + c) * x) 0 = x * hornerR rest x := by
  induction rest with
  | nil => simp
  | cons c r ih => simp only [List.foldr_cons, ih, hornerR_cons]; ring

/-- `evaluate_polynomial` computes the polynomial's value (and panics exactly on `[]`:
    `evaluatePolynomial_nil`) -/
theorem evaluatePolynomial_eq (x c0 : F) (rest : List F) :
    evaluatePolynomial x (c0 :: rest) = .ok (hornerR (c0 :: rest) x) := by
  unfold evaluatePolynomial
  dsimp only
  rw [List.foldl_reverse, horner_fold, hornerR_cons, add_comm]

theorem evaluatePolynomial_nil (x : F) :
    evaluatePolynomial x ([] : List F) =
      .panic "evaluate_polynomial: coefficients must have at least one element" := rfl

/-- "polynomial in the exponent": `Σ_k x^k • C_k` -/
def vssR (cs : List E) (x : F) : E := cs.foldr (fun c acc => c + x • acc) 0

@[simp] theorem vssR_nil (x : F) : vssR ([] : List E) x = 0 := rfl
@[simp] theorem vssR_cons (c : E) (cs : List E) (x : F) : vssR (c :: cs) x = c + x • vssR cs x := rfl

theorem vss_fold (i : F) (cs : List E) (p : F) (acc : E) :
    (cs.foldl (vssStep i) (p, acc)).2 = acc + p • vssR cs i := by
  induction cs generalizing p acc with
  | nil => simp
  | cons c r ih =>
    simp only [List.foldl_cons, vssStep, ih, vssR_cons, smul_add, mul_smul, add_assoc, smul_comm i p]

/-- `evaluate_vss` computes `Σ_k i^k • C_k` -/
theorem evaluateVss_eq (i : F) (cs : List E) : evaluateVss i cs = vssR cs i := by
  simp only [evaluateVss, vss_fold, zero_add, one_smul]

theorem vssR_map_smul (G : E) (cs : List F) (x : F) :
    vssR (cs.map fun c => c • G) x = hornerR cs x • G := by
  induction cs with
  | nil => simp
  | cons c r ih => simp only [List.map_cons, vssR_cons, ih, hornerR_cons, add_smul, mul_smul]

theorem vssR_append (pre post : List E) (x : F) :
    vssR (pre ++ post) x = vssR pre x + x ^ pre.length • vssR post x := by
  induction pre with
  | nil => simp
  | cons d r ih =>
    simp only [List.cons_append, vssR_cons, ih, List.length_cons, pow_succ', smul_add, mul_smul,
      add_assoc]

theorem vssR_append_singleton (cs : List E) (c : E) (x : F) :
    vssR (cs ++ [c]) x = vssR cs x + x ^ cs.length • c := by
  simp only [vssR_append, vssR_cons, vssR_nil, smul_zero, add_zero]

theorem hornerR_append_singleton (cs : List F) (a x : F) :
    hornerR (cs ++ [a]) x = hornerR cs x + a * x ^ cs.length := by
  rw [mul_comm]
  exact vssR_append_singleton (E := F) cs a x

theorem vssR_replicate_zero (n : Nat) (x : F) : vssR (List.replicate n (0 : E)) x = 0 := by
  induction n with
  | zero => rfl
  | succ n ih => simp [List.replicate_succ, ih]

theorem vssR_zipWith_add (a b : List E) (h : a.length = b.length) (x : F) :
    vssR (List.zipWith (· + ·) a b) x = vssR a x + vssR b x := by
  induction a generalizing b with
  | nil => simp only [List.length_eq_zero_iff.mp h.symm, List.zipWith_nil_left, vssR_nil, add_zero]
  | cons g gs ih =>
    cases b with
    | nil => cases h
    | cons c0 cs =>
      simp only [List.zipWith_cons_cons, vssR_cons, ih cs (Nat.succ.inj h), smul_add]
      exact add_add_add_comm _ _ _ _

theorem doubleAndAdd_eq (n : Nat) (hn : 0 < n) : (doubleAndAdd n : F) = (n : F) := by
  induction n using Nat.strongRecOn with
  | _ n ih =>
    unfold doubleAndAdd
    split
    · have : n = 1 := by omega
      subst this; simp
    · rename_i h
      have h2 : 2 ≤ n := Nat.lt_of_not_le h
      -- `n = n/2 + n/2 + n%2`, and the lower bit decides the branch
      have hn2 : (n : F) = ((n / 2 : Nat) : F) + ((n / 2 : Nat) : F) + ((n % 2 : Nat) : F) := by
        rw [← Nat.cast_add, ← Nat.cast_add, ← two_mul, Nat.div_add_mod]
      simp only [ih (n / 2) (Nat.div_lt_self hn Nat.one_lt_two) (Nat.div_pos h2 Nat.two_pos)]
      rcases Nat.mod_two_eq_zero_or_one n with h0 | h1
      · rw [hn2, h0, if_neg Nat.zero_ne_one, Nat.cast_zero, add_zero]
      · rw [hn2, h1, if_pos rfl, Nat.cast_one]

/-- `Identifier::try_from(n)` is the image of `n` in the field, when that is not zero -/
theorem identifierOfNat_eq (n : Nat) (hn : 0 < n) (hF : (n : F) ≠ 0) :
    (identifierOfNat n : Outcome F F) = .ok (n : F) := by
  unfold identifierOfNat
  simp [Nat.pos_iff_ne_zero.mp hn, doubleAndAdd_eq n hn, hF]

end Frost

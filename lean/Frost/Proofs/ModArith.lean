/-
  Frost.Proofs.ModArith — the reference modular arithmetic (`Frost.Ref.ModArith`) read in `ZMod p`:
  `negMod`, `subMod` and `powMod` are negation, subtraction and power there.
-/
import Mathlib.Data.ZMod.Basic
import Frost.Ref.ModArith

namespace Frost.Ref

theorem negMod_eq_sub {x p : Nat} (h0 : 0 < x) (hx : x < p) : negMod x p = p - x := by
  rw [negMod, Nat.mod_eq_of_lt hx, Nat.mod_eq_of_lt (Nat.sub_lt (Nat.zero_lt_of_lt hx) h0)]

theorem negMod_eq_zero {x p : Nat} (hx : x < p) (h : negMod x p = 0) : x = 0 := by
  by_contra hne
  rw [negMod_eq_sub (Nat.pos_of_ne_zero hne) hx] at h
  omega

theorem natCast_negMod {p : ℕ} (hp : 0 < p) (a : ℕ) :
    ((negMod a p : ℕ) : ZMod p) = -(a : ZMod p) := by
  unfold negMod
  rw [ZMod.natCast_mod, Nat.cast_sub (Nat.mod_lt a hp).le, ZMod.natCast_self, zero_sub,
    ZMod.natCast_mod]

theorem mod_eq_negMod {x y p : ℕ} (hp : 0 < p) (h : (x : ZMod p) = -(y : ZMod p)) :
    x % p = negMod y p := by
  rw [← natCast_negMod hp, ZMod.natCast_eq_natCast_iff'] at h
  rw [h]; exact Nat.mod_mod _ _

theorem negMod_mul_mod {p : ℕ} (hp : 0 < p) (a b : ℕ) :
    negMod a p * b % p = negMod (a * b % p) p := by
  apply mod_eq_negMod hp
  rw [Nat.cast_mul, natCast_negMod hp, ZMod.natCast_mod, Nat.cast_mul, neg_mul]

theorem natCast_subMod {p : ℕ} (hp : 0 < p) (a b : ℕ) :
    ((subMod a b p : ℕ) : ZMod p) = (a : ZMod p) - b := by
  unfold subMod
  rw [ZMod.natCast_mod, Nat.cast_add, ZMod.natCast_mod, Nat.cast_sub (Nat.mod_lt b hp).le,
    ZMod.natCast_self, zero_sub, ZMod.natCast_mod, sub_eq_add_neg]

theorem powModFuel_spec (p fuel b e acc : ℕ) (h : e < 2 ^ fuel) :
    ((powModFuel p fuel b e acc : ℕ) : ZMod p) = (acc : ZMod p) * (b : ZMod p) ^ e := by
  induction fuel generalizing b e acc with
  | zero => rw [Nat.lt_one_iff.1 h, pow_zero, mul_one]; rfl
  | succ f ih =>
    -- one step multiplies the accumulator by `b ^ (e % 2)` and squares the base for `e / 2`
    have hacc : (((if e % 2 == 1 then acc * b % p else acc : ℕ)) : ZMod p)
        = (acc : ZMod p) * (b : ZMod p) ^ (e % 2) := by
      rcases Nat.mod_two_eq_zero_or_one e with h0 | h1
      · rw [h0, pow_zero, mul_one]; rfl
      · rw [h1, pow_one, ← Nat.cast_mul, ← ZMod.natCast_mod (acc * b)]; rfl
    have hsplit : (acc : ZMod p) * (b : ZMod p) ^ (e % 2) * ((b * b % p : ℕ) : ZMod p) ^ (e / 2)
        = (acc : ZMod p) * (b : ZMod p) ^ e := by
      rw [ZMod.natCast_mod, Nat.cast_mul, ← pow_two, ← pow_mul, mul_assoc, ← pow_add,
        Nat.mod_add_div]
    rw [powModFuel, ← hsplit, ← hacc]
    by_cases hz : e / 2 = 0
    · rw [if_pos (by rw [hz]; rfl), hz, pow_zero, mul_one]
    · rw [if_neg (by rwa [beq_iff_eq])]
      exact ih _ _ _ (Nat.div_lt_of_lt_mul (by rwa [pow_succ'] at h))

theorem powMod_spec (b e p : ℕ) : ((powMod b e p : ℕ) : ZMod p) = (b : ZMod p) ^ e := by
  unfold powMod
  rw [powModFuel_spec p _ _ _ _ Nat.lt_log2_self]
  simp [ZMod.natCast_mod]

end Frost.Ref

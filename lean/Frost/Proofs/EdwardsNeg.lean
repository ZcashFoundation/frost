/-
  Frost.Proofs.EdwardsNeg — scalar multiplication on a twisted Edwards curve commutes with negation:
  `k • (−P) = −(k • P)` for the reference `EdwCurve.mul` (extended coordinates), any modulus `p > 0`.
  Negating `x` and `t` of both arguments of the unified addition `xadd` negates `x` and `t` of the
  result; each coordinate is an identity in `ZMod p`.
-/
import Mathlib.Tactic.Ring
import Frost.Ref.Edwards
import Frost.Proofs.ModArith

namespace Frost.Ref

def XPoint.neg (p : ℕ) (P : XPoint) : XPoint := ⟨negMod P.x p, P.y, P.z, negMod P.t p⟩

namespace EdwCurve

theorem neg_beq_zero (c : EdwCurve) {R : EPoint} (hx : R.x < c.p) :
    (c.neg R == ⟨0, 1⟩) = (R == ⟨0, 1⟩) := by
  obtain ⟨x, y⟩ := R
  rw [Bool.eq_iff_iff, beq_iff_eq, beq_iff_eq, EdwCurve.neg, EPoint.mk.injEq, EPoint.mk.injEq]
  refine and_congr_left fun _ => ⟨negMod_eq_zero hx, ?_⟩
  rintro rfl
  exact Nat.mod_self _

theorem xadd_neg (c : EdwCurve) (hp : 0 < c.p) (P Q : XPoint) :
    c.xadd (P.neg c.p) (Q.neg c.p) = (c.xadd P Q).neg c.p := by
  have hA : negMod P.x c.p * negMod Q.x c.p % c.p = P.x * Q.x % c.p := by
    rw [← ZMod.natCast_eq_natCast_iff']
    push_cast [natCast_negMod hp]
    ring
  have hC : (c.d * negMod P.t c.p % c.p) * negMod Q.t c.p % c.p
      = (c.d * P.t % c.p) * Q.t % c.p := by
    rw [← ZMod.natCast_eq_natCast_iff']
    push_cast [natCast_negMod hp, ZMod.natCast_mod]
    ring
  have hE : (negMod P.x c.p * Q.y + P.y * negMod Q.x c.p) % c.p
      = negMod ((P.x * Q.y + P.y * Q.x) % c.p) c.p := by
    apply mod_eq_negMod hp
    push_cast [natCast_negMod hp, ZMod.natCast_mod]
    ring
  simp only [xadd, XPoint.neg, hA, hC, hE, negMod_mul_mod hp]

theorem xmulLoop_neg (c : EdwCurve) (hp : 0 < c.p) (P : XPoint) (k : ℕ) : ∀ (i : ℕ) (R : XPoint),
    c.xmulLoop (P.neg c.p) k i (R.neg c.p) = (c.xmulLoop P k i R).neg c.p
  | 0, _ => rfl
  | i + 1, R => by
    simp only [xmulLoop, xadd_neg c hp]
    split
    · exact xmulLoop_neg c hp P k i _
    · exact xmulLoop_neg c hp P k i _

theorem mul_neg (c : EdwCurve) (hp : 0 < c.p) (k : ℕ) (P : EPoint) :
    c.mul k (c.neg P) = c.neg (c.mul k P) := by
  have hP : (⟨negMod P.x c.p % c.p, P.y % c.p, 1 % c.p, negMod P.x c.p * P.y % c.p⟩ : XPoint)
      = XPoint.neg c.p ⟨P.x % c.p, P.y % c.p, 1 % c.p, P.x * P.y % c.p⟩ := by
    rw [negMod_mul_mod hp]
    simp only [XPoint.neg, negMod, Nat.mod_mod]
  have hR : XPoint.neg c.p ⟨0, 1 % c.p, 1 % c.p, 0⟩ = ⟨0, 1 % c.p, 1 % c.p, 0⟩ := by
    simp [XPoint.neg, negMod]
  have key := c.xmulLoop_neg hp ⟨P.x % c.p, P.y % c.p, 1 % c.p, P.x * P.y % c.p⟩ k (k.log2 + 1)
    ⟨0, 1 % c.p, 1 % c.p, 0⟩
  rw [← hP, hR] at key
  simp only [mul, neg, key, XPoint.neg]
  rw [negMod_mul_mod hp]

end EdwCurve

end Frost.Ref

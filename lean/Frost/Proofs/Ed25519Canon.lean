/-
  Frost.Proofs.Ed25519Canon — frost-ed25519's element decoder accepts canonical encodings only.

  The Rust decoder has no canonicity test: it relies on every non-canonical encoding (`y ≥ p`, or
  `x = 0` with the sign bit set) being undecodable, the identity, or not of prime order.  For the
  model decoder that is proved here.  The decoder sees of its 32 bytes only the sign bit and
  `y mod p` (`ed25519DecE_natToLE`); the sign bit chooses between `P` and `−P`, which `L` kills or
  not together (`EdwCurve.mul_neg`); `x = 0` forces `y = ±1` because `p` is prime (`p25519_prime`).
  What remains is finite and evaluated by the kernel: the 19 values `y mod p < 19`
  (`small_y_refused`) and the point `(0, −1)` of order 2 (`order2_refused`).
-/
import Frost.Proofs.WireRef
import Frost.Proofs.Prime25519
import Frost.Proofs.EdwardsNeg

namespace Frost
namespace Ref

def rejects25519 (b : Bytes) : Bool :=
  match ed25519DecE b with
  | .ok _ => false
  | .error _ => true

theorem p25_val : p25 = 57896044618658097711785492504343953926634992332820282019728792003956564819949 := by
  norm_num [p25]

/-- The decoder on the 32-byte string of `v`: only the sign bit `s` and `y` reduced mod `p` matter.
    (Stated by cases on the root: a `match` on `ed25519Root y` with `y` a variable must not reach the
    kernel's `whnf`, which would unroll `powMod` over the 252 bits of the exponent `(p − 5) / 8` on a
    stuck term.) -/
theorem ed25519DecE_natToLE {v s y : Nat} (hv : v < 2 ^ 256) (hs : v / 2 ^ 255 = s)
    (hy : v % 2 ^ 255 % p25 = y) :
    (ed25519Root y = none → ed25519DecE (natToLE v 32) = .error .GroupMalformedElement) ∧
    (∀ x, ed25519Root y = some x → ed25519DecE (natToLE v 32) = ed25519Finish s x y) := by
  have h256 : v % 256 ^ 32 = v := Nat.mod_eq_of_lt (by norm_num; exact hv)
  refine ⟨fun hr => ?_, fun x hr => ?_⟩ <;>
    simp only [ed25519DecE, length_natToLE, leToNat_natToLE, h256, Nat.one_shiftLeft,
      Nat.and_two_pow_sub_one_eq_mod, Nat.shiftRight_eq_div_pow, bne_self_eq_false,
      Bool.false_eq_true, if_false, hs, hy, hr]

/-- what `ed25519Finish` refuses whatever the sign bit: the identity, and points that `L` does not kill -/
def refused25519 (x y : Nat) : Bool :=
  (⟨x, y⟩ : EPoint) == ⟨0, 1⟩ || ed25519.mul L25 ⟨x, y⟩ != ⟨0, 1⟩

/-- the sign bit only chooses between `P` and `−P`, and `L • (−P) = −(L • P)` -/
theorem refused25519_neg {x : Nat} (hx : x < p25) (y : Nat) :
    refused25519 (negMod x p25) y = refused25519 x y := by
  have hp : 0 < ed25519.p := p25519_prime.pos
  have hR : (ed25519.mul L25 ⟨x, y⟩).x < ed25519.p := Nat.mod_lt _ hp
  show (ed25519.neg ⟨x, y⟩ == ⟨0, 1⟩ || ed25519.mul L25 (ed25519.neg ⟨x, y⟩) != ⟨0, 1⟩) = _
  rw [EdwCurve.mul_neg _ hp, bne, ed25519.neg_beq_zero hR,
    ed25519.neg_beq_zero (R := ⟨x, y⟩) hx]
  rfl

theorem ed25519Finish_refused (s x y : Nat) (hx : x < p25) (h : refused25519 x y = true) :
    ∃ e, ed25519Finish s x y = .error e := by
  have h' : refused25519 (if (x &&& 1) != s then negMod x p25 else x) y = true := by
    split
    · rwa [refused25519_neg hx]
    · exact h
  simp only [ed25519Finish]
  generalize (if (x &&& 1) != s then negMod x p25 else x) = x' at h' ⊢
  rcases Bool.or_eq_true_iff.1 h' with h1 | h2
  · exact ⟨_, if_pos h1⟩
  · by_cases h1 : ((⟨x', y⟩ : EPoint) == ⟨0, 1⟩) = true
    · exact ⟨_, if_pos h1⟩
    · exact ⟨_, by rw [if_neg h1, if_pos h2]⟩

/-- the 19 values `y < 19`: seven have no root, `y = 1` gives the identity, the other eleven points
    are not killed by `L` (one scalar multiplication each) -/
theorem small_y_refused : (List.range 19).all (fun k => match ed25519Root k with
    | none => true | some x => refused25519 x k) = true := by decide +kernel

/-- the candidate root is reduced, and it is `0` only if `y² − 1 ≡ 0` -/
theorem ed25519Root_spec (y x : Nat) (h : ed25519Root y = some x) :
    x < p25 ∧ (x = 0 → subMod (y * y) 1 p25 = 0) := by
  have hp : 0 < p25 := p25519_prime.pos
  unfold ed25519Root at h
  simp only at h
  generalize hu : subMod (y * y) 1 p25 = u at h
  have hult : u < p25 := by rw [← hu]; exact Nat.mod_lt _ hp
  generalize hx0 : u * powMod ((d25 * y * y + 1) % p25) 3 p25 *
    powMod (u * powMod ((d25 * y * y + 1) % p25) 7 p25) ((p25 - 5) / 8) p25 % p25 = x0 at h
  have hx0lt : x0 < p25 := by rw [← hx0]; exact Nat.mod_lt _ hp
  generalize (d25 * y * y + 1) % p25 = w at h
  by_cases h1 : (w * x0 * x0 % p25 == u) = true
  · rw [if_pos h1] at h
    cases h
    refine ⟨hx0lt, fun hz => ?_⟩
    rw [hz, Nat.mul_zero, Nat.zero_mod] at h1
    exact (beq_iff_eq.1 h1).symm
  · rw [if_neg h1] at h
    by_cases h2 : (w * x0 * x0 % p25 == negMod u p25) = true
    · rw [if_pos h2] at h
      cases h
      refine ⟨Nat.mod_lt _ hp, fun hz => ?_⟩
      -- `x0 * sqrtM1 ≡ 0` and `p` prime: `x0 = 0`, since `0 < sqrtM1 < p`
      have hx00 : x0 = 0 := by
        rcases (Nat.Prime.dvd_mul (p := p25) p25519_prime).1 (Nat.dvd_of_mod_eq_zero hz) with hd | hd
        · exact Nat.eq_zero_of_dvd_of_lt hd hx0lt
        · exact absurd (Nat.le_of_dvd (by norm_num [sqrtM1]) hd) (by rw [p25_val]; norm_num [sqrtM1])
      rw [hx00, Nat.mul_zero, Nat.zero_mod] at h2
      exact negMod_eq_zero hult (beq_iff_eq.1 h2).symm
    · rw [if_neg h2] at h
      cases h

theorem sq_eq_one_of_prime {p y : ℕ} (hp : p.Prime) (hy : y < p) (h : subMod (y * y) 1 p = 0) :
    y = 1 ∨ y = p - 1 := by
  have := Fact.mk hp
  have h1 : (y : ZMod p) * y = 1 := by
    have := natCast_subMod hp.pos (y * y) 1
    rwa [h, Nat.cast_zero, Nat.cast_mul, Nat.cast_one, eq_comm, sub_eq_zero] at this
  rw [← ZMod.val_natCast_of_lt hy]
  rcases mul_self_eq_one_iff.1 h1 with h | h
  · left; rw [h, ZMod.val_one]
  · right; rw [h, ZMod.neg_val, if_neg one_ne_zero, ZMod.val_one]

/-- `y² ≡ 1 (mod p)` with `y < p` means `y = 1` or `y = p − 1` (uses primality) -/
theorem sq_eq_one (y : Nat) (hy : y < p25) (h : subMod (y * y) 1 p25 = 0) : y = 1 ∨ y = p25 - 1 :=
  sq_eq_one_of_prime p25519_prime hy h

theorem ed25519Root_of_sq_one (y : Nat) (h : subMod (y * y) 1 p25 = 0) : ed25519Root y = some 0 := by
  unfold ed25519Root
  simp only [h, Nat.zero_mul, Nat.mul_zero, Nat.zero_mod, beq_self_eq_true, if_true]

theorem small_y_rejected {v s k : Nat} (hv : v < 2 ^ 256) (hs : v / 2 ^ 255 = s)
    (hy : v % 2 ^ 255 % p25 = k) (hk : k < 19) : ∃ e, ed25519DecE (natToLE v 32) = .error e := by
  have ht := List.all_eq_true.1 small_y_refused k (List.mem_range.2 hk)
  obtain ⟨h0, h1⟩ := ed25519DecE_natToLE hv hs hy
  cases hr : ed25519Root k with
  | none => exact ⟨_, h0 hr⟩
  | some x =>
    rw [hr] at ht
    rw [h1 x hr]
    exact ed25519Finish_refused s x k (ed25519Root_spec k x hr).1 ht

/-- the 38 encodings with a non-reduced `y` (`p ≤ y < 2^255`, either sign bit) are rejected -/
theorem noncanonical_y_rejected :
    (List.range 19).all (fun k => (List.range 2).all fun s =>
      rejects25519 (natToLE (p25 + k + s * 2 ^ 255) 32)) = true := by
  refine List.all_eq_true.2 fun k hk => List.all_eq_true.2 fun s hs => ?_
  have hk := List.mem_range.1 hk
  have hs := List.mem_range.1 hs
  have hlt : p25 + k < 2 ^ 255 ∧ k < p25 := by rw [p25_val]; omega
  obtain ⟨e, he⟩ := small_y_rejected (v := p25 + k + s * 2 ^ 255) (s := s) (k := k) (by omega)
    (by rw [Nat.add_mul_div_right _ _ (Nat.two_pow_pos 255), Nat.div_eq_of_lt hlt.1, Nat.zero_add])
    (by rw [Nat.add_mul_mod_self_right, Nat.mod_eq_of_lt hlt.1, Nat.add_mod_left,
      Nat.mod_eq_of_lt hlt.2]) hk
  rw [rejects25519, he]

/-- `y = −1`, `x = 0`: the point of order 2 -/
theorem order2_refused : refused25519 0 (p25 - 1) = true := by decide +kernel

theorem x0_rejected (s y : Nat) (hy : y = 1 ∨ y = p25 - 1) : ∃ e, ed25519Finish s 0 y = .error e := by
  refine ed25519Finish_refused s 0 y p25519_prime.pos ?_
  rcases hy with rfl | rfl
  · unfold refused25519; rw [beq_self_eq_true, Bool.true_or]
  · exact order2_refused

theorem x0_bytes_rejected {v y : Nat} (hv : v < 2 ^ 256) (hy : v % 2 ^ 255 % p25 = y)
    (hsq : subMod (y * y) 1 p25 = 0) : rejects25519 (natToLE v 32) = true := by
  have hylt : y < p25 := hy ▸ Nat.mod_lt _ p25519_prime.pos
  obtain ⟨e, he⟩ := x0_rejected (v / 2 ^ 255) y (sq_eq_one y hylt hsq)
  rw [rejects25519, (ed25519DecE_natToLE hv rfl hy).2 0 (ed25519Root_of_sq_one y hsq), he]

/-- `x = 0` with the sign bit set: `y = 1` (identity) and `y = −1` (order 2) are rejected -/
theorem noncanonical_x0_rejected :
    rejects25519 (natToLE (1 + 1 * 2 ^ 255) 32) = true ∧
    rejects25519 (natToLE (p25 - 1 + 1 * 2 ^ 255) 32) = true :=
  ⟨x0_bytes_rejected (y := 1) (by norm_num) (by norm_num [p25]) (by norm_num [subMod, p25]),
   x0_bytes_rejected (y := p25 - 1) (by norm_num [p25]) (by norm_num [p25])
    (by norm_num [subMod, p25])⟩

/-- the root chosen by `ed25519Finish` has the requested sign bit, unless `x = 0` and the bit is set -/
theorem ed25519_sign (x s : Nat) (hx : x < p25) (hs : s < 2) (hbad : ¬ (x = 0 ∧ s = 1)) :
    (if (x &&& 1) != s then negMod x p25 else x) &&& 1 = s := by
  rcases Nat.eq_zero_or_pos x with rfl | hpos
  · obtain rfl : s = 0 := by omega
    rfl
  · rw [negMod_eq_sub hpos hx]
    exact pickRoot_parity p25 x (by rw [p25_val]) hx s hs

/-- **Ed25519: an accepted encoding is canonical** — re-encoding the decoded element returns
    exactly the input bytes. -/
theorem ed25519_dec_canonical (b : Bytes) (e : EE ed25519) (h : ed25519DecE b = .ok e) :
    ed25519Base.encElem e = some b := by
  have hlen : b.length = 32 := by
    by_contra hne
    rw [ed25519DecE, if_pos (by simpa using hne)] at h
    cases h
  have hb : natToLE (leToNat b) 32 = b := hlen ▸ natToLE_leToNat b
  have hv : leToNat b < 2 ^ 256 := by
    have := leToNat_lt b
    rwa [hlen, show 256 ^ 32 = 2 ^ 256 by norm_num] at this
  generalize leToNat b = v at hb hv
  subst hb
  generalize hs : v / 2 ^ 255 = s
  generalize hyl : v % 2 ^ 255 = yl
  have hslt : s < 2 := hs ▸ Nat.div_lt_of_lt_mul (by rw [← Nat.pow_succ]; exact hv)
  have hyllt : yl < 2 ^ 255 := hyl ▸ Nat.mod_lt _ (Nat.two_pow_pos 255)
  by_cases hc : yl < p25
  · obtain ⟨h0, h1⟩ := ed25519DecE_natToLE (y := yl) hv hs (by rw [hyl, Nat.mod_eq_of_lt hc])
    rcases Option.eq_none_or_eq_some (ed25519Root yl) with hr | ⟨x, hr⟩
    · rw [h0 hr] at h; cases h
    · rw [h1 x hr] at h
      obtain ⟨hxlt, hx0⟩ := ed25519Root_spec yl x hr
      by_cases hbad : x = 0 ∧ s = 1
      · obtain ⟨e', he'⟩ := x0_rejected s yl (sq_eq_one yl hc (hx0 hbad.1))
        rw [hbad.1, he'] at h
        cases h
      · have hpar := ed25519_sign x s hxlt hslt hbad
        simp only [ed25519Finish, ite_error_eq_ok, Except.ok.injEq, beq_iff_eq] at h
        obtain ⟨hid, -, rfl⟩ := h
        have hor : yl ||| s * 2 ^ 255 = v := by
          rw [Nat.or_comm, Nat.mul_comm s, ← Nat.two_pow_add_eq_or_of_lt hyllt, ← hs, ← hyl]
          exact Nat.div_add_mod v (2 ^ 255)
        simp only [ed25519Base, if_neg hid, ed25519Enc, hpar, Nat.shiftLeft_eq, hor]
  · exfalso
    -- `p ≤ yl < 2^255 = p + 19`
    have hk : yl - p25 < 19 := Nat.sub_lt_left_of_lt_add (Nat.le_of_not_lt hc)
      (by rwa [show p25 + 19 = 2 ^ 255 by norm_num [p25]])
    obtain ⟨e', he'⟩ := small_y_rejected (k := yl - p25) hv hs
      (by rw [hyl, Nat.mod_eq_sub_mod (Nat.le_of_not_lt hc),
        Nat.mod_eq_of_lt (hk.trans (by norm_num [p25]))]) hk
    rw [he'] at h
    cases h

/-- the Ed25519 suite: scalars little-endian below the group order, elements as above -/
theorem ed25519_canon : Wire.BaseCanon ed25519Base := by
  refine ⟨?_, ?_⟩
  · intro b s _ h
    exact (decLE_canonical ed25519.n 32 b s h).1
  · intro b e _ h
    exact ed25519_dec_canonical b e h

end Ref
end Frost

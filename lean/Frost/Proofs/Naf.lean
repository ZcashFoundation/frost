/-
  Frost.Proofs.Naf — the width-5 NAF loop of scalar_mul.rs, for every byte string: it reads
  limbs inside the buffer (`nafLimbCheck`), every digit it writes is odd and lies in (-16, 16),
  and the digits reassemble the number the bytes denote (`nonAdjacentForm_spec`, one induction
  over the loop with the invariant `NafInv`).  So the 8-entry lookup table is always indexed
  below 8, and `vartime_multiscalar_mul` returns iff it was given as many scalars as elements.
-/
import Frost.Model.Naf
import Mathlib.Tactic.Ring

namespace Frost

/-- the limb read at bit position `pos` of an `n`-byte scalar is inside the `⌈(8n+1)/64⌉` limbs,
    also when the 5-bit window straddles two limbs -/
theorem nafLimbCheck_true (n pos : Nat) (h : pos < 8 * n + 1) :
    nafLimbCheck 5 ((8 * n + 1 + 63) / 64) pos = true := by
  unfold nafLimbCheck
  simp only
  split
  · simp only [decide_eq_true_eq]; omega
  · simp only [decide_eq_true_eq]; omega

def DigitsOk (ds : List (Nat × Int)) : Prop := ∀ pd ∈ ds, -16 < pd.2 ∧ pd.2 < 16

def nafValue (ds : List (Nat × Int)) : Int := (ds.map fun pd => pd.2 * 2 ^ pd.1).sum

theorem nafValue_cons (p : Nat) (d : Int) (ds : List (Nat × Int)) :
    nafValue ((p, d) :: ds) = d * 2 ^ p + nafValue ds := by
  simp only [nafValue, List.map_cons, List.sum_cons]

/-- what the loop guarantees about its output -/
structure NafOk (len : Nat) (ds : List (Nat × Int)) : Prop where
  bound : ∀ pd ∈ ds, pd.1 < len ∧ -16 < pd.2 ∧ pd.2 < 16 ∧ pd.2 % 2 = 1
  sorted : ds.Pairwise (fun a b => b.1 < a.1)

namespace NafOk

theorem digitsOk {len : Nat} {ds : List (Nat × Int)} (h : NafOk len ds) : DigitsOk ds :=
  fun pd hpd => ⟨(h.bound pd hpd).2.1, (h.bound pd hpd).2.2.1⟩

end NafOk

/-! ### One window, as arithmetic on variables

`q` is the scalar shifted down to the window, `m = q % 32` the five bits read, `r = q / 32` the
rest, `c` the incoming carry.  Each lemma gives the digit written and the equation that keeps
`Σ digits + 2^pos * (rest + carry)` unchanged. -/

-- `2 ^ 0 ≤ q` says `0 < q` in the form `lt_of_two_pow_le_div` takes
theorem nafWin_even {q c : Nat} (hc : c ≤ 1) (h : (c + q % 32) % 2 = 0) :
    2 * (q / 2 + c) = q + c ∧ (c = 1 → 2 ^ 0 ≤ q) := by
  omega

-- `r + 0` is `r + c'` at the new carry `c' = 0`, the form `NafInv.push` takes
theorem nafWin_low {q m r c : Nat} (hq : q = m + 32 * r) (h : (c + m) % 2 = 1) (hl : c + m < 16) :
    (-16 < ((c + m : Nat) : Int) ∧ ((c + m : Nat) : Int) < 16 ∧ ((c + m : Nat) : Int) % 2 = 1) ∧
      ((c + m : Nat) : Int) + 32 * ((r + 0 : Nat) : Int) = ((q + c : Nat) : Int) := by
  omega

theorem nafWin_high {q m r c : Nat} (hq : q = m + 32 * r) (hc : c ≤ 1) (hm : m < 32)
    (h : (c + m) % 2 = 1) (hl : 16 ≤ c + m) :
    (-16 < ((c + m : Nat) : Int) - 32 ∧ ((c + m : Nat) : Int) - 32 < 16 ∧
        (((c + m : Nat) : Int) - 32) % 2 = 1) ∧
      ((c + m : Nat) : Int) - 32 + 32 * ((r + 1 : Nat) : Int) = ((q + c : Nat) : Int) ∧
      16 ≤ q := by
  omega

theorem div_two_pow_add (x p k : Nat) : x / 2 ^ (p + k) = x / 2 ^ p / 2 ^ k := by
  rw [Nat.pow_add, Nat.div_div_eq_div_mul]

theorem lt_of_two_pow_le_div {x B pos k : Nat} (hx : x < 2 ^ B) (h : 2 ^ k ≤ x / 2 ^ pos) :
    pos + k < B := by
  refine (Nat.pow_lt_pow_iff_right (a := 2) (by decide)).1 (Nat.lt_of_le_of_lt ?_ hx)
  rw [Nat.pow_add]
  exact Nat.le_trans (Nat.mul_le_mul_left _ h) (Nat.mul_div_le x (2 ^ pos))

theorem nafLoop_succ (x w len L fuel pos c : Nat) (acc : List (Nat × Int)) (hlt : pos < len)
    (hchk : nafLimbCheck w L pos = true) :
    nafLoop x w len L (fuel + 1) pos c acc =
      if (c + x / 2 ^ pos % 2 ^ w) % 2 = 0 then nafLoop x w len L fuel (pos + 1) c acc
      else if c + x / 2 ^ pos % 2 ^ w < 2 ^ w / 2 then
        nafLoop x w len L fuel (pos + w) 0 ((pos, ((c + x / 2 ^ pos % 2 ^ w : Nat) : Int)) :: acc)
      else
        nafLoop x w len L fuel (pos + w) 1
          ((pos, ((c + x / 2 ^ pos % 2 ^ w : Nat) : Int) - 2 ^ w) :: acc) := by
  rw [nafLoop, if_pos hlt, hchk, Bool.not_true, if_neg Bool.false_ne_true]

/-- the loop invariant at position `pos` with carry `c`: the digits written so far are well
    formed and lie below `pos`, a carry can be pending only below the bit length `B` of `x`, and
    digits plus the unread part make up `x` -/
structure NafInv (x B len pos c : Nat) (acc : List (Nat × Int)) : Prop where
  ok : NafOk len acc
  below : ∀ pd ∈ acc, pd.1 < pos
  carry : c ≤ 1
  top : c = 1 → pos ≤ B
  value : nafValue acc + 2 ^ pos * ((x / 2 ^ pos + c : Nat) : Int) = (x : Int)

namespace NafInv
variable {x B len pos c : Nat} {acc : List (Nat × Int)}

theorem init (x B len : Nat) : NafInv x B len 0 0 [] where
  ok := ⟨fun _ h => (nomatch h), List.Pairwise.nil⟩
  below := fun _ h => (nomatch h)
  carry := Nat.zero_le _
  top := fun h => (nomatch h)
  value := by
    rw [pow_zero, Nat.pow_zero, Nat.div_one, Nat.add_zero, one_mul]
    exact zero_add _

theorem even (hI : NafInv x B len pos c acc) (hx : x < 2 ^ B)
    (h : (c + x / 2 ^ pos % 2 ^ 5) % 2 = 0) : NafInv x B len (pos + 1) c acc := by
  obtain ⟨e, hq⟩ := nafWin_even hI.carry h
  refine ⟨hI.ok, fun pd hpd => Nat.lt_succ_of_lt (hI.below pd hpd), hI.carry,
    fun h1 => lt_of_two_pow_le_div hx (hq h1), ?_⟩
  rw [div_two_pow_add, pow_one, pow_succ, mul_assoc, ← Nat.cast_ofNat (R := Int), ← Nat.cast_mul, e]
  exact hI.value

/-- an odd window: digit `d` is written at `pos` and the carry becomes `c'` -/
theorem push (hI : NafInv x B len pos c acc) (hlt : pos < len) {d : Int} {c' : Nat}
    (hd : -16 < d ∧ d < 16 ∧ d % 2 = 1) (hc' : c' ≤ 1) (htop : c' = 1 → pos + 5 ≤ B)
    (hv : d + 2 ^ 5 * ((x / 2 ^ pos / 2 ^ 5 + c' : Nat) : Int) = ((x / 2 ^ pos + c : Nat) : Int)) :
    NafInv x B len (pos + 5) c' ((pos, d) :: acc) := by
  refine ⟨⟨?_, List.pairwise_cons.2 ⟨hI.below, hI.ok.sorted⟩⟩, ?_, hc', htop, ?_⟩
  · intro pd hpd
    rcases List.mem_cons.1 hpd with rfl | hm
    · exact ⟨hlt, hd⟩
    · exact hI.ok.bound pd hm
  · intro pd hpd
    rcases List.mem_cons.1 hpd with rfl | hm
    · exact Nat.lt_add_of_pos_right (by decide)
    · exact Nat.lt_add_right 5 (hI.below pd hm)
  · rw [nafValue_cons, div_two_pow_add, pow_add, ← hI.value, ← hv]
    ring

/-- past the bit length nothing is left to read and no carry is pending -/
theorem exit (hI : NafInv x B len pos c acc) (hx : x < 2 ^ B) (hp : B < pos) :
    nafValue acc = (x : Int) ∧ NafOk len acc := by
  refine ⟨?_, hI.ok⟩
  have hc : c = 0 := by
    have := hI.carry
    have := hI.top
    omega
  have hv := hI.value
  rw [hc, Nat.div_eq_of_lt (Nat.lt_trans hx (Nat.pow_lt_pow_right (by decide) hp)), Nat.add_zero,
    Nat.cast_zero, mul_zero, add_zero] at hv
  exact hv

end NafInv

theorem nafFuel_step {len fuel pos k : Nat} (hf : len + 1 ≤ fuel + 1 + pos) (hk : 0 < k) :
    len + 1 ≤ fuel + (pos + k) := by
  omega

/-- **the width-5 loop returns, and its digits reassemble `x`**, when every limb read is in
    bounds and the buffer is longer than the bit length of `x` -/
theorem nafLoop_spec {x B len L : Nat} (hx : x < 2 ^ B) (hB : B < len)
    (hchk : ∀ pos, pos < len → nafLimbCheck 5 L pos = true) :
    ∀ (fuel pos c : Nat) (acc : List (Nat × Int)), len + 1 ≤ fuel + pos →
      NafInv x B len pos c acc →
      ∃ ds, nafLoop x 5 len L fuel pos c acc = some ds ∧ nafValue ds = (x : Int) ∧ NafOk len ds := by
  intro fuel
  induction fuel with
  | zero =>
    intro pos c acc hf hI
    exact ⟨acc, rfl, hI.exit hx (by omega)⟩
  | succ fuel ih =>
    intro pos c acc hf hI
    by_cases hlt : pos < len
    · rw [nafLoop_succ x 5 len L fuel pos c acc hlt (hchk pos hlt)]
      have hq := (Nat.mod_add_div (x / 2 ^ pos) (2 ^ 5)).symm
      by_cases hev : (c + x / 2 ^ pos % 2 ^ 5) % 2 = 0
      · rw [if_pos hev]
        exact ih _ _ _ (nafFuel_step hf Nat.one_pos) (hI.even hx hev)
      · rw [if_neg hev]
        have hodd := Nat.mod_two_ne_zero.1 hev
        by_cases hl : c + x / 2 ^ pos % 2 ^ 5 < 2 ^ 5 / 2
        · rw [if_pos hl]
          obtain ⟨hd, hv⟩ := nafWin_low hq hodd hl
          exact ih _ _ _ (nafFuel_step hf (by decide))
            (hI.push hlt hd (Nat.zero_le _) (fun h => (nomatch h)) hv)
        · rw [if_neg hl]
          obtain ⟨hd, hv, h16⟩ := nafWin_high hq hI.carry (Nat.mod_lt _ (by decide)) hodd
            (Nat.le_of_not_lt hl)
          exact ih _ _ _ (nafFuel_step hf (by decide))
            (hI.push hlt hd (Nat.le_refl _) (fun _ => lt_of_two_pow_le_div hx h16) hv)
    · rw [nafLoop, if_neg hlt]
      exact ⟨acc, rfl, hI.exit hx (by omega)⟩

theorem leNat_lt (b : Bytes) : leNat b < 2 ^ (8 * b.length) := by
  induction b with
  | nil => exact Nat.one_pos
  | cons x xs ih =>
    have hx : x.toNat < 256 := x.toNat_lt
    have : (2 : Nat) ^ (8 * (xs.length + 1)) = 256 * 2 ^ (8 * xs.length) := by
      rw [Nat.mul_succ, Nat.pow_add, Nat.mul_comm]
    rw [leNat, List.length_cons, this]
    omega

/-- **`non_adjacent_form(5)` never reads outside its limb buffer, and its digits reassemble the
    number the bytes denote**, for every byte string -/
theorem nonAdjacentForm_spec (le : Bytes) :
    ∃ ds, nonAdjacentForm le 5 = some ds ∧ nafValue ds = (leNat le : Int) ∧
      NafOk (8 * le.length + 1) ds := by
  unfold nonAdjacentForm
  simp only
  rw [Nat.mul_comm le.length 8]
  exact nafLoop_spec (leNat_lt le) (Nat.lt_succ_self _) (nafLimbCheck_true le.length) _ 0 0 []
    (Nat.le_refl _) (NafInv.init _ _ _)

theorem nafDigit_of_forall {P : Int → Prop} (ds : List (Nat × Int)) (h0 : P 0)
    (h : ∀ pd ∈ ds, P pd.2) (i : Nat) : P (nafDigit ds i) := by
  unfold nafDigit
  cases hf : ds.find? (fun pd => pd.1 = i) with
  | none => exact h0
  | some pd => exact h pd (List.mem_of_find?_eq_some hf)

theorem nafDigit_bounds (ds : List (Nat × Int)) (h : DigitsOk ds) (i : Nat) :
    -16 < nafDigit ds i ∧ nafDigit ds i < 16 :=
  nafDigit_of_forall (P := fun d => -16 < d ∧ d < 16) ds (by decide) h i

theorem nafDigit_odd {len : Nat} (ds : List (Nat × Int)) (h : NafOk len ds) (i : Nat) :
    nafDigit ds i = 0 ∨ nafDigit ds i % 2 = 1 :=
  nafDigit_of_forall (P := fun d => d = 0 ∨ d % 2 = 1) ds (Or.inl rfl)
    (fun pd hpd => Or.inr (h.bound pd hpd).2.2.2) i

/-- `nonAdjacentForm_spec` for a list of scalars: `mapM` applies a total function -/
theorem mapM_nonAdjacentForm {F : Type} (le : F → Bytes) :
    ∃ g : F → List (Nat × Int),
      (∀ s, nafValue (g s) = (leNat (le s) : Int) ∧ NafOk (8 * (le s).length + 1) (g s)) ∧
      ∀ ss : List F, ss.mapM (fun s => nonAdjacentForm (le s) 5) = some (ss.map g) := by
  choose g hg hv using fun s => nonAdjacentForm_spec (le s)
  refine ⟨g, hv, fun ss => ?_⟩
  simp only [hg]
  exact List.mapM_pure

theorem forall_mem_zip_map {α β γ : Type} {g : α → β} {P : β → Prop} (h : ∀ a, P (g a))
    (l : List α) (es : List γ) : ∀ p ∈ (l.map g).zip es, P p.1 := fun p hp => by
  obtain ⟨a, -, ha⟩ := List.mem_map.1 (List.of_mem_zip hp).1
  exact ha ▸ h a

section msm
set_option linter.unusedSectionVars false
variable {F E : Type} [Add E] [Sub E] [Zero E]

theorem lookupSelect_eq (A : E) {x : Nat} (h : x < 16) :
    lookupSelect A x = some (lookupEntry A (x / 2)) :=
  if_pos (Nat.div_lt_of_lt_mul h)

/-- what one pair contributes at a position where its digit is `d`: the table entry of `|d|`,
    added or subtracted -/
def digitStep (A : E) (d : Int) (t : E) : E :=
  if d > 0 then t + lookupEntry A (d.toNat / 2)
  else if d < 0 then t - lookupEntry A ((-d).toNat / 2)
  else t

/-- one pair of the inner loop: a digit in `(-16, 16)` indexes the table below 8, so the lookup
    returns -/
theorem msmInner_cons (i : Nat) (naf : List (Nat × Int)) (A : E)
    (rest : List (List (Nat × Int) × E)) (t : E)
    (hd : -16 < nafDigit naf i ∧ nafDigit naf i < 16) :
    msmInner i ((naf, A) :: rest) t = msmInner i rest (digitStep A (nafDigit naf i) t) := by
  rw [msmInner, digitStep]
  generalize nafDigit naf i = d at hd ⊢
  by_cases hpos : d > 0
  · rw [if_pos hpos, if_pos hpos, lookupSelect_eq A (by omega)]
  · rw [if_neg hpos, if_neg hpos]
    by_cases hneg : d < 0
    · rw [if_pos hneg, if_pos hneg, lookupSelect_eq A (by omega)]
    · rw [if_neg hneg, if_neg hneg]

theorem msmInner_total (i : Nat) :
    ∀ (pairs : List (List (Nat × Int) × E)) (t : E), (∀ p ∈ pairs, DigitsOk p.1) →
      ∃ v, msmInner i pairs t = some v
  | [], t, _ => ⟨t, rfl⟩
  | (naf, A) :: rest, t, h => by
    rw [msmInner_cons i naf A rest t (nafDigit_bounds naf (h _ List.mem_cons_self) i)]
    exact msmInner_total i rest _ fun p hp => h p (List.mem_cons_of_mem _ hp)

theorem msmOuter_total (pairs : List (List (Nat × Int) × E)) (h : ∀ p ∈ pairs, DigitsOk p.1) :
    ∀ (i : Nat) (r : E), ∃ v, msmOuter pairs i r = some v
  | 0, r => ⟨r, rfl⟩
  | k + 1, r => by
    obtain ⟨t, ht⟩ := msmInner_total k pairs (r + r) h
    rw [msmOuter, ht]
    exact msmOuter_total pairs h k t

/-- **`vartime_multiscalar_mul` returns iff it is given as many scalars as elements** — no
    input makes it index out of bounds -/
theorem vartimeMultiscalarMul_isSome (le : F → Bytes) (ss : List F) (es : List E) :
    (vartimeMultiscalarMul le ss es).isSome ↔ ss.length = es.length := by
  obtain ⟨g, hg, hm⟩ := mapM_nonAdjacentForm le
  unfold vartimeMultiscalarMul
  rw [hm]
  dsimp only
  rw [List.length_map]
  by_cases hl : ss.length = es.length
  · rw [if_neg (not_not.2 hl)]
    cases ss with
    | nil => exact iff_of_true rfl hl
    | cons s0 rest =>
      obtain ⟨v, hv⟩ := msmOuter_total _
        (forall_mem_zip_map (fun s => (hg s).2.digitsOk) (s0 :: rest) es) ((le s0).length * 8 + 1) 0
      dsimp only
      rw [hv]
      exact iff_of_true rfl hl
  · rw [if_pos hl]
    exact iff_of_false Bool.false_ne_true hl

end msm
end Frost

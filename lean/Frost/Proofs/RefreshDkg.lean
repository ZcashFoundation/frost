/-
  Frost.Proofs.RefreshDkg — `refresh_share` in closed form; `refresh_dkg_shares`: what a
  successful run guarantees, and the honest run (when it returns: `refreshDkgShares_eq_ok`,
  Frost.Proofs.Steps).
-/
import Frost.Proofs.Dkg

set_option linter.unusedSectionVars false

namespace Frost

variable {F E : Type} [Field F] [DecidableEq F] [AddCommGroup E] [Module F E] [DecidableEq E]

/-- the identity in front of a commitment is the commitment to the constant term zero
    (`refresh_share` and `refresh_dkg_shares` re-insert it) -/
theorem map_smul_zero_cons (G : E) (rc : List F) :
    (0 : E) :: (rc.map fun c => c • G) = ((0 : F) :: rc).map fun c => c • G := by
  rw [List.map_cons, zero_smul]

theorem vssR_zero_cons_map_smul (G : E) (rc : List F) (x : F) :
    vssR ((0 : E) :: rc.map fun c => c • G) x = hornerR (0 :: rc) x • G := by
  rw [map_smul_zero_cons, vssR_map_smul]

theorem refreshShare_eq (S : Suite F E) (rs : SecretShare F E) (kp : KeyPackage F E) :
    refreshShare S rs kp =
      if rs.share • S.G = vssR ((0 : E) :: rs.commitment) rs.id then
        if asU16 (rs.commitment.length + 1) ≠ kp.minSigners then .error .InvalidMinSigners
        else .ok { kp with share := rs.share + kp.share, vshare := (rs.share + kp.share) • S.G }
      else .error (.InvalidSecretShare none) := by
  unfold refreshShare KeyPackage.tryFrom
  simp only [SecretShare.verify_eq, List.head?_cons, Option.elim_some, List.length_cons]
  by_cases h : rs.share • S.G = vssR ((0 : E) :: rs.commitment) rs.id
  · rw [if_pos h, if_pos h]
  · rw [if_neg h, if_neg h]

/-- the loop that adds the old verifying shares: every identifier of the zero-key package gets
    its entry plus the old entry; everything else in the accumulator is untouched -/
theorem addOldShares_spec (S : Suite F E) (old : List (F × E)) :
    ∀ (zs acc out : List (F × E)), (SMap.keys zs).Nodup →
      addOldShares S old zs acc = .ok out →
      ∀ id, SMap.get? out id =
        match SMap.get? zs id with
        | some Yz => (SMap.get? old id).map (Yz + ·)
        | none => SMap.get? acc id := by
  intro zs
  induction zs with
  | nil =>
    intro acc out _ h id
    simp only [addOldShares, Outcome.ok.injEq] at h
    subst h; simp
  | cons kv rest ih =>
    intro acc out hnd h id
    obtain ⟨k, Yz⟩ := kv
    unfold addOldShares at h
    cases ho : SMap.get? old k with
    | none => simp [ho] at h
    | some Yold =>
      simp only [ho] at h
      obtain ⟨hk, hnd'⟩ := List.nodup_cons.mp hnd
      rw [ih _ out hnd' h id, SMap.get?_cons]
      by_cases e : k = id
      · subst e
        have hn : SMap.get? rest k = none := (SMap.get?_eq_none_iff rest k).mpr hk
        simp [hn, SMap.get?_insert, ho]
      · simp only [e, if_false]
        cases SMap.get? rest id with
        | some y => rfl
        | none => simp [SMap.get?_insert, e]

theorem addOldShares_get? (S : Suite F E) (old zs vs : List (F × E)) (hnd : (SMap.keys zs).Nodup)
    (hadd : addOldShares S old zs [] = .ok vs) (id : F) (Z Y : E)
    (hZ : SMap.get? zs id = some Z) (hY : SMap.get? old id = some Y) :
    SMap.get? vs id = some (Z + Y) := by
  rw [addOldShares_spec S old zs [] vs hnd hadd id, hZ, hY]
  rfl

/-- **Consistency of a successful distributed refresh.**  If `refresh_dkg_shares` returns
    `(kp, pkp)`, the round-one map has distinct senders and does not contain the participant
    itself, every filed commitment has the length of the participant's own (what part 2 checked on
    the same map), the participant's own refresh state is the honest one, and its OLD key material
    was consistent (`old pkp[i] = old share • G`), then:
    same identifier, `verifying_share = signing_share • G = pkp[i]`, the group key of both
    packages is the OLD group key, the threshold is unchanged, and the new signing share is the
    old one plus the own and the received refreshing shares. -/
theorem refreshDkgShares_ok_consistent (S : Suite F E) (sp : Round2Secret F E)
    (r1 : List (F × Round1Package F E)) (r2 : List (F × F)) (oldPkp : PublicKeyPackage F E)
    (oldKp : KeyPackage F E) (kp : KeyPackage F E) (pkp : PublicKeyPackage F E)
    (h : refreshDkgShares S sp r1 r2 oldPkp oldKp = .ok (kp, pkp))
    (hk1 : (SMap.keys r1).Nodup) (hself : sp.id ∉ SMap.keys r1)
    (hlen : ∀ ip ∈ r1, ip.2.commitment.length = sp.commitment.length)
    (hown : sp.secretShare • S.G = vssR ((0 : E) :: sp.commitment) sp.id)
    (hold : SMap.get? oldPkp.vshares sp.id = some (oldKp.share • S.G)) :
    kp.id = sp.id ∧ kp.vshare = kp.share • S.G ∧ kp.vk = oldPkp.vk ∧ pkp.vk = oldPkp.vk ∧
    kp.minSigners = oldKp.minSigners ∧ pkp.minSigners = some oldKp.minSigners ∧
    kp.share = ((r2.map (·.2)).sum + sp.secretShare) + oldKp.share ∧
    SMap.get? pkp.vshares sp.id = some kp.vshare := by
  obtain ⟨hmin, _, _, hlen12, hsub, sum, zero, vs, hloop, hpk, hadd, hout⟩ :=
    (refreshDkgShares_eq_ok S sp r1 r2 oldPkp oldKp (kp, pkp)).mp h
  cases hout
  rw [← SMap.keys_map_snd r1 fun ip => (0 : E) :: ip.2.commitment] at hself hk1 hsub
  obtain ⟨gc, _, hgv, hpk', _, _, hkeys, hget⟩ := fromDkgCommitments_insert S.idLt _ sp.id
    ((0 : E) :: sp.commitment) hself
    (List.forall_mem_map.mpr fun ip hip => congrArg (· + 1) (hlen ip hip)) (List.cons_ne_nil _ _)
  have hsumG := part3Loop_sum_smul S sp.id _ false r2 sum hloop hk1 (by rwa [List.length_map]) hsub
  cases hpk'.symm.trans hpk
  have hvs := addOldShares_get? S oldPkp.vshares _ vs
    (hkeys.nodup_iff.mpr (List.nodup_cons.mpr ⟨hself, hk1⟩)) hadd sp.id _ _
    (hget sp.id List.mem_cons_self) hold
  obtain ⟨hsumeq, _⟩ := part3Loop_eq_ok.mp hloop
  refine ⟨rfl, rfl, rfl, rfl, hmin, by rw [hmin], by rw [hsumeq, zero_add], ?_⟩
  show SMap.get? vs sp.id = some ((sum + sp.secretShare + oldKp.share) • S.G)
  simp only [hvs, hgv, add_smul, hsumG, hown, add_comm (vssR _ _)]

theorem addOldShares_ok (S : Suite F E) (old : List (F × E)) :
    ∀ (zs acc : List (F × E)), (∀ id ∈ SMap.keys zs, ∃ Y, SMap.get? old id = some Y) →
      ∃ out, addOldShares S old zs acc = .ok out := by
  intro zs
  induction zs with
  | nil => intro acc _; exact ⟨acc, rfl⟩
  | cons kv rest ih =>
    intro acc h
    obtain ⟨k, Yz⟩ := kv
    obtain ⟨Y, hY⟩ := h k List.mem_cons_self
    unfold addOldShares
    simp only [hY]
    exact ih _ fun id hid => h id (List.mem_cons_of_mem _ hid)

/-- **The honest distributed refresh succeeds and re-links everything.**  Every participant `ℓ`
    contributes the zero-constant polynomial `r_ℓ(x) = x·(rc ℓ)(x)` (`rc ℓ` = its `t − 1` drawn
    coefficients; the commitment it files is `rc ℓ • G`, without the identity entry); `sold i` is
    participant `i`'s old signing share and the old public key package lists `sold i • G`.  Then
    `refresh_dkg_shares` returns, for `R(x) = r_me(x) + Σ_ℓ r_ℓ(x)`: signing share
    `sold me + R(me)`, verifying share = that times `G`, the OLD group key in both packages, the
    same threshold, and `(sold i + R(i)) • G` as verifying share of EVERY participant `i` — which
    is the hypothesis `hvs` of `refreshed_can_sign` (`R` has zero constant term, so the sharing
    still interpolates to the old secret: `refresh_preserves_sharing`). -/
theorem refreshDkgShares_honest (S : Suite F E) (me : F) (rc : F → List F) (sold : F → F)
    (t n : Nat) (ht : 0 < t) (hrc : ∀ l, (rc l).length + 1 = t)
    (r1 : List (F × Round1Package F E)) (h0 : n ≠ 0) (hlen : r1.length = n - 1)
    (hown : me ∉ SMap.keys r1) (hnd : (SMap.keys r1).Nodup)
    (hcm : ∀ ip ∈ r1, ip.2.commitment = (rc ip.1).map fun c => c • S.G)
    (oldPkp : PublicKeyPackage F E) (oldKp : KeyPackage F E)
    (hmin : oldKp.minSigners = t) (hshare : oldKp.share = sold me)
    (hold : ∀ id ∈ me :: SMap.keys r1, SMap.get? oldPkp.vshares id = some (sold id • S.G)) :
    let Rtot := fun x => hornerR (0 :: rc me) x +
      ((SMap.keys r1).map fun l => hornerR (0 :: rc l) x).sum
    ∃ kp pkp,
      refreshDkgShares S ⟨me, (rc me).map fun c => c • S.G, hornerR (0 :: rc me) me, t, n⟩ r1
        (r1.map fun ip => (ip.1, hornerR (0 :: rc ip.1) me)) oldPkp oldKp = .ok (kp, pkp) ∧
      kp = ⟨me, sold me + Rtot me, (sold me + Rtot me) • S.G, oldPkp.vk, t⟩ ∧
      pkp.vk = oldPkp.vk ∧ pkp.minSigners = some t ∧
      ∀ id ∈ me :: SMap.keys r1, SMap.get? pkp.vshares id = some ((sold id + Rtot id) • S.G) := by
  intro Rtot
  obtain ⟨hloop, zero, hpk, _, _, hkeys, hget⟩ := honest_loop_and_package S me
    (r1.map fun ip => (ip.1, (0 : E) :: ip.2.commitment)) false (fun l => 0 :: rc l) t ht hrc
    (by rwa [SMap.keys_map_snd]) (by rwa [SMap.keys_map_snd])
    (List.forall_mem_map.mpr fun ip hip => by rw [← map_smul_zero_cons, hcm ip hip])
  simp only [SMap.keys_map_snd, List.map_map, ← map_smul_zero_cons] at hloop hpk hkeys hget
  obtain ⟨vs, hadd⟩ := addOldShares_ok S oldPkp.vshares zero.vshares []
    fun id hid => ⟨_, hold id (hkeys.mem_iff.mp hid)⟩
  have hrun := (refreshDkgShares_eq_ok S ⟨me, _, hornerR (0 :: rc me) me, t, n⟩ r1
    (r1.map fun ip => (ip.1, hornerR (0 :: rc ip.1) me)) oldPkp oldKp _).mpr ⟨hmin.symm, h0, hlen,
      by rw [List.length_map], by rw [SMap.keys_map_snd]; exact fun _ h => h,
      _, _, vs, hloop, hpk, hadd, rfl⟩
  refine ⟨_, _, hrun, ?_, rfl, rfl, fun id hid => ?_⟩
  · rw [hshare, add_comm _ (hornerR (0 :: rc me) me), add_comm _ (sold me)]
  · show SMap.get? vs id = _
    rw [addOldShares_get? S oldPkp.vshares _ vs
      (hkeys.nodup_iff.mpr (List.nodup_cons.mpr ⟨hown, hnd⟩)) hadd id _ _ (hget id hid)
      (hold id hid), ← add_smul, add_comm]

end Frost

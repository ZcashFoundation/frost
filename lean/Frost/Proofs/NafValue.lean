/-
  Frost.Proofs.NafValue — the interleaved multiscalar multiplication returns Σ sᵢ • Pᵢ, since
  the width-5 NAF digits reassemble the scalar (`nonAdjacentForm_spec`).  This discharges the
  hypothesis `MsmSound` of the signing theorems from a law about the *encoding* only:
  `little_endian_serialize` is the fixed-length little-endian encoding of the scalar.
-/
import Frost.Proofs.Naf
import Frost.Proofs.Signing

namespace Frost

section msmvalue
variable {F E : Type} [Field F] [DecidableEq F] [AddCommGroup E] [Module F E] [DecidableEq E]

theorem lookupEntry_eq (A : E) (k : Nat) : lookupEntry A k = (2 * k + 1) • A := by
  induction k with
  | zero => simp [lookupEntry]
  | succ k ih =>
    have : 2 * (k + 1) + 1 = 2 + (2 * k + 1) := by ring
    rw [lookupEntry, ih, this, add_smul 2 (2 * k + 1) A, two_smul]

theorem digitStep_eq (A : E) (d : Int) (t : E) (hd : d = 0 ∨ d % 2 = 1) :
    digitStep A d t = t + d • A := by
  have entry : ∀ z : Int, 0 ≤ z → z % 2 = 1 → lookupEntry A (z.toNat / 2) = z • A :=
      fun z h0 hz => by
    obtain ⟨x, rfl⟩ := Int.eq_ofNat_of_zero_le h0
    rw [Int.toNat_natCast, lookupEntry_eq, natCast_zsmul, show 2 * (x / 2) + 1 = x by omega]
  rw [digitStep]
  rcases hd with rfl | hodd
  · rw [if_neg (lt_irrefl 0), if_neg (lt_irrefl 0), zero_smul, add_zero]
  · by_cases hpos : d > 0
    · rw [if_pos hpos, entry d hpos.le hodd]
    · have hneg : d < 0 := by omega
      rw [if_neg hpos, if_pos hneg,
        entry (-d) (neg_nonneg.2 hneg.le) ((Int.neg_emod_two d).trans hodd), neg_smul,
        sub_neg_eq_add]

theorem msmInner_eq {len : Nat} (i : Nat) (pairs : List (List (Nat × Int) × E)) (t : E)
    (h : ∀ p ∈ pairs, NafOk len p.1) :
    msmInner i pairs t = some (t + (pairs.map fun p => nafDigit p.1 i • p.2).sum) := by
  induction pairs generalizing t with
  | nil => rw [msmInner, List.map_nil, List.sum_nil, add_zero]
  | cons p rest ih =>
    have hok := h p List.mem_cons_self
    rw [msmInner_cons i p.1 p.2 rest t (nafDigit_bounds p.1 hok.digitsOk i),
      digitStep_eq p.2 _ t (nafDigit_odd p.1 hok i),
      ih _ fun q hq => h q (List.mem_cons_of_mem _ hq), List.map_cons, List.sum_cons, add_assoc]

/-- the digits below position `i`, weighted -/
def nafPartial (ds : List (Nat × Int)) (i : Nat) : Int :=
  ((List.range i).map fun j => nafDigit ds j * 2 ^ j).sum

theorem nafPartial_succ (ds : List (Nat × Int)) (i : Nat) :
    nafPartial ds (i + 1) = nafDigit ds i * 2 ^ i + nafPartial ds i := by
  rw [nafPartial, List.range_succ, List.map_append, List.sum_append, add_comm]
  simp only [List.map_cons, List.map_nil, List.sum_cons, List.sum_nil, add_zero, nafPartial]

theorem nafPartial_succ_sum (pairs : List (List (Nat × Int) × E)) (k : Nat) :
    (pairs.map fun p => nafPartial p.1 (k + 1) • p.2).sum =
      (2 ^ k : Nat) • (pairs.map fun p => nafDigit p.1 k • p.2).sum +
        (pairs.map fun p => nafPartial p.1 k • p.2).sum := by
  rw [List.smul_sum, List.map_map, ← List.sum_map_add]
  refine congrArg List.sum (List.map_congr_left fun p _ => ?_)
  rw [Function.comp_apply, nafPartial_succ, add_smul, mul_comm, mul_smul, ← natCast_zsmul,
    Nat.cast_pow, Nat.cast_ofNat]

theorem msmOuter_eq {len : Nat} (pairs : List (List (Nat × Int) × E))
    (h : ∀ p ∈ pairs, NafOk len p.1) :
    ∀ (i : Nat) (r : E),
      msmOuter pairs i r =
        some ((2 ^ i : Nat) • r + (pairs.map fun p => nafPartial p.1 i • p.2).sum) := by
  intro i
  induction i with
  | zero =>
    intro r
    simp [msmOuter, nafPartial]
  | succ k ih =>
    intro r
    rw [msmOuter, msmInner_eq k pairs (r + r) h]
    simp only
    rw [ih, nafPartial_succ_sum, smul_add, pow_succ, mul_smul, two_smul, add_assoc]

theorem nafDigit_cons (p : Nat) (d : Int) (rest : List (Nat × Int)) (j : Nat) :
    nafDigit ((p, d) :: rest) j = if p = j then d else nafDigit rest j := by
  by_cases h : p = j <;> simp [nafDigit, h]

/-- a new digit at a position where the rest has none adds its weight once `N` is above it -/
theorem nafPartial_cons (p : Nat) (d : Int) (rest : List (Nat × Int)) (hz : nafDigit rest p = 0) (N : Nat) :
    nafPartial ((p, d) :: rest) N = (if p < N then d * 2 ^ p else 0) + nafPartial rest N := by
  induction N with
  | zero => rfl
  | succ N ih =>
    rw [nafPartial_succ, nafPartial_succ, ih, nafDigit_cons]
    by_cases h : p = N
    · subst h
      rw [if_pos rfl, if_neg (lt_irrefl p), if_pos (Nat.lt_succ_self p), hz, zero_mul, zero_add]
    · rw [if_neg h, add_left_comm]
      simp only [Nat.lt_succ_iff_lt_or_eq, h, or_false]

/-- with all positions below `N` and distinct, the weighted digits are the NAF's value -/
theorem nafPartial_eq_value {len : Nat} (ds : List (Nat × Int)) (h : NafOk len ds) (N : Nat)
    (hN : len ≤ N) : nafPartial ds N = nafValue ds := by
  induction ds with
  | nil => simp [nafPartial, nafValue, nafDigit]
  | cons pd rest ih =>
    obtain ⟨p, d⟩ := pd
    have hsorted := List.pairwise_cons.1 h.sorted
    have hzero : nafDigit rest p = 0 := by
      unfold nafDigit
      rw [List.find?_eq_none.2 fun x hx => by simpa using Nat.ne_of_lt (hsorted.1 x hx)]
    rw [nafPartial_cons p d rest hzero N,
      if_pos (Nat.lt_of_lt_of_le (h.bound (p, d) List.mem_cons_self).1 hN),
      ih ⟨fun x hx => h.bound x (List.mem_cons_of_mem _ hx), hsorted.2⟩, nafValue_cons]

/-- `little_endian_serialize` is the fixed-length little-endian encoding of the scalar -/
structure LeSound (le : F → Bytes) : Prop where
  value : ∀ s, ((leNat (le s) : Nat) : F) = s
  len : ∀ s s', (le s).length = (le s').length

theorem sum_nafPartial_smul {le : F → Bytes} (hle : LeSound le) {g : F → List (Nat × Int)} {N : Nat}
    (hg : ∀ s, nafValue (g s) = (leNat (le s) : Int) ∧ NafOk N (g s)) (ss : List F) (es : List E) :
    (((ss.map g).zip es).map fun p => nafPartial p.1 N • p.2).sum =
      (List.zipWith (fun s e => s • e) ss es).sum := by
  have key : ∀ (s : F) (e : E), nafPartial (g s) N • e = s • e := fun s e => by
    rw [nafPartial_eq_value (g s) (hg s).2 N le_rfl, (hg s).1, natCast_zsmul,
      ← Nat.cast_smul_eq_nsmul F, hle.value]
  rw [List.zip_map_left, List.map_map, ← List.map_uncurry_zip_eq_zipWith]
  exact congrArg List.sum (List.map_congr_left fun p _ => key p.1 p.2)

/-- **`vartime_multiscalar_mul` returns Σ sᵢ • Pᵢ**: the hypothesis `MsmSound` of the signing
    theorems follows from the encoding law alone -/
theorem msmSound_of_leSound (le : F → Bytes) (hle : LeSound le) : MsmSound (E := E) le := by
  intro ss es v hv
  obtain ⟨g, hg, hm⟩ := mapM_nonAdjacentForm le
  unfold vartimeMultiscalarMul at hv
  rw [hm] at hv
  dsimp only at hv
  split at hv
  · cases hv
  · cases ss with
    | nil => cases hv; rfl
    | cons s0 rest =>
      -- all encodings have the length of the first, which fixes the number of rows
      have hg' : ∀ s, nafValue (g s) = (leNat (le s) : Int) ∧ NafOk ((le s0).length * 8 + 1) (g s) :=
        fun s => by rw [Nat.mul_comm, ← hle.len s s0]; exact hg s
      dsimp only at hv
      rw [msmOuter_eq _ (forall_mem_zip_map (fun s => (hg' s).2) (s0 :: rest) es), smul_zero,
        zero_add, sum_nafPartial_smul hle hg'] at hv
      exact (Option.some.inj hv).symm

end msmvalue
end Frost

/-
  Frost.Proofs.Lagrange — `compute_lagrange_coefficient` computes the Lagrange
  basis value, and Lagrange interpolation (in the field and "in the exponent")
  over lists of distinct nodes.
-/
import Frost.Proofs.Poly
import Mathlib.LinearAlgebra.Lagrange

set_option linter.unusedSectionVars false

namespace Frost

open Polynomial Finset

variable {F E : Type} [Field F] [DecidableEq F] [AddCommGroup E] [Module F E]

/-- Lagrange basis value `ℓ_{xi}(x)` over the node list `xs`. -/
def lagBasis (xs : List F) (x xi : F) : F :=
  ((xs.filter (· ≠ xi)).map fun xj => (x - xj) * (xi - xj)⁻¹).prod

/-- the loop of `compute_lagrange_coefficient`, in closed form -/
theorem lagrangeLoop_spec (x : Option F) (xi : F) (xs : List F) (num den : F) (found : Bool) :
    lagrangeLoop x xi xs (num, den, found) =
      (num * ((xs.filter (· ≠ xi)).map fun xj =>
          match x with | some x => x - xj | none => xj).prod,
       den * ((xs.filter (· ≠ xi)).map fun xj =>
          match x with | some _ => xi - xj | none => xj - xi).prod,
       found || xs.contains xi) := by
  induction xs generalizing num den found with
  | nil => simp [lagrangeLoop]
  | cons xj rest ih =>
    unfold lagrangeLoop
    by_cases h : xi = xj
    · subst h; simp [ih]
    · have h' : xj ≠ xi := fun e => h e.symm
      cases x with
      | some x => simp [h, h', ih, mul_assoc]
      | none => simp [h, h', ih, mul_assoc]

theorem prod_map_ne_zero (l : List F) (f : F → F) (h : ∀ a ∈ l, f a ≠ 0) : (l.map f).prod ≠ 0 :=
  List.prod_ne_zero fun h0 => by
    obtain ⟨a, ha, e⟩ := List.mem_map.mp h0
    exact h a ha e

theorem prod_map_mul_inv (l : List F) (f g : F → F) :
    (l.map f).prod * ((l.map g).prod)⁻¹ = (l.map fun a => f a * (g a)⁻¹).prod := by
  rw [List.prod_map_mul, List.prod_inv, List.map_map]
  rfl

/-- **`compute_lagrange_coefficient` returns the Lagrange basis value** for every node
    list containing `xi` (`x = none` means evaluation at 0). -/
theorem computeLagrangeCoefficient_eq (xs : List F) (x : Option F) (xi : F) (hmem : xi ∈ xs) :
    computeLagrangeCoefficient xs x xi = .ok (lagBasis xs (x.getD 0) xi) := by
  unfold computeLagrangeCoefficient
  have hne : xs.isEmpty = false := List.isEmpty_eq_false_iff.mpr (List.ne_nil_of_mem hmem)
  have hc : xs.contains xi = true := List.contains_iff_mem.mpr hmem
  simp only [hne, Bool.false_eq_true, if_false, lagrangeLoop_spec, one_mul, Bool.false_or, hc,
    Bool.not_true]
  have hfil : ∀ a ∈ xs.filter (· ≠ xi), a ≠ xi := fun a ha => by
    simpa using (List.mem_filter.mp ha).2
  cases x with
  | some x =>
    have hden : ((xs.filter (· ≠ xi)).map fun xj => xi - xj).prod ≠ 0 :=
      prod_map_ne_zero _ _ fun a ha => sub_ne_zero.mpr (hfil a ha).symm
    simp only [hden, if_false, Option.getD_some]
    rw [prod_map_mul_inv]; rfl
  | none =>
    have hden : ((xs.filter (· ≠ xi)).map fun xj => xj - xi).prod ≠ 0 :=
      prod_map_ne_zero _ _ fun a ha => sub_ne_zero.mpr (hfil a ha)
    simp only [hden, if_false, Option.getD_none]
    rw [prod_map_mul_inv]
    refine congrArg _ (congrArg List.prod (List.map_congr_left fun a _ => ?_))
    -- `(0 - a) / (xi - a) = a / (a - xi)`
    rw [zero_sub, ← neg_sub a xi, inv_neg, neg_mul_neg]

theorem computeLagrangeCoefficient_unknown (xs : List F) (x : Option F) (xi : F)
    (hne : xs ≠ []) (hmem : xi ∉ xs) :
    computeLagrangeCoefficient xs x xi = .error .UnknownIdentifier := by
  unfold computeLagrangeCoefficient
  have hc : xs.contains xi = false := Bool.eq_false_iff.mpr (mt List.contains_iff_mem.mp hmem)
  simp only [List.isEmpty_eq_false_iff.mpr hne, Bool.false_eq_true, if_false, lagrangeLoop_spec,
    Bool.false_or, hc, Bool.not_false, if_true]

theorem lagBasis_eq_finset (xs : List F) (hnd : xs.Nodup) (x xi : F) :
    lagBasis xs x xi = ∏ j ∈ xs.toFinset.erase xi, ((x - j) * (xi - j)⁻¹) := by
  unfold lagBasis
  have : xs.toFinset.erase xi = (xs.filter (· ≠ xi)).toFinset := by
    ext a; simp [and_comm]
  rw [this, List.prod_toFinset _ (hnd.filter _)]

/-- Lagrange over a finset of nodes (from `Lagrange.eq_interpolate`) -/
theorem lagrange_eval (s : Finset F) (f : F[X]) (hf : f.degree < s.card) (x : F) :
    ∑ i ∈ s, f.eval i * ∏ j ∈ s.erase i, ((x - j) * (i - j)⁻¹) = f.eval x := by
  have h := Lagrange.eq_interpolate (s := s) (v := id) (f := f) (Set.injOn_id _) hf
  conv_rhs => rw [h]
  simp only [Lagrange.interpolate_apply, eval_finsetSum, eval_mul, eval_C, id]
  refine Finset.sum_congr rfl fun i _ => ?_
  congr 1
  simp only [Lagrange.basis, eval_prod, Lagrange.basisDivisor, eval_mul, eval_C, eval_sub, eval_X, id]
  refine Finset.prod_congr rfl fun j _ => ?_
  ring

theorem lagrange_eval_list (xs : List F) (hnd : xs.Nodup) (f : F[X]) (hf : f.degree < xs.length)
    (x : F) : (xs.map fun i => lagBasis xs x i * f.eval i).sum = f.eval x := by
  rw [← lagrange_eval xs.toFinset f (by rwa [List.toFinset_card_of_nodup hnd]) x,
    ← List.sum_toFinset _ hnd]
  exact Finset.sum_congr rfl fun i _ => by rw [lagBasis_eq_finset xs hnd, mul_comm]

theorem lagBasis_sum_pow (xs : List F) (hnd : xs.Nodup) (k : Nat) (hk : k < xs.length) (x : F) :
    (xs.map fun i => lagBasis xs x i * i ^ k).sum = x ^ k := by
  have := lagrange_eval_list xs hnd (X ^ k) (by rw [degree_X_pow]; exact_mod_cast hk) x
  simpa only [eval_pow, eval_X] using this

theorem lagBasis_sum_one (xs : List F) (hnd : xs.Nodup) (hne : xs ≠ []) (x : F) :
    (xs.map fun i => lagBasis xs x i).sum = 1 := by
  simpa using lagBasis_sum_pow xs hnd 0 (List.length_pos_iff.mpr hne) x

/-- **Lagrange "in the exponent"**: for a commitment vector `C` with at most `|xs|`
    entries, `Σ_i ℓ_i(x) • (Σ_k i^k • C_k) = Σ_k x^k • C_k`. -/
theorem lagrange_interp_module (xs : List F) (hnd : xs.Nodup) (C : List E)
    (hlen : C.length ≤ xs.length) (x : F) :
    (xs.map fun i => lagBasis xs x i • vssR C i).sum = vssR C x := by
  induction C using List.reverseRecOn with
  | nil => simp
  | append_singleton C c ih =>
    rw [List.length_append, List.length_singleton] at hlen
    -- the last entry contributes `(Σ_i ℓ_i(x) i^k) • c = x^k • c`
    simp only [vssR_append_singleton, smul_add, List.sum_map_add, ih (Nat.le_of_succ_le hlen),
      smul_smul]
    rw [← lagBasis_sum_pow xs hnd C.length hlen x, List.sum_smul, List.map_map]
    rfl

/-- **Lagrange interpolation over a list of distinct nodes**: a polynomial with at
    most `|xs|` coefficients is recovered at any point `x` from its values on `xs`
    (`hornerR` is `vssR` in the module `F` over itself). -/
theorem lagrange_interp_list (xs : List F) (hnd : xs.Nodup) (cs : List F)
    (hlen : cs.length ≤ xs.length) (x : F) :
    (xs.map fun i => lagBasis xs x i * hornerR cs i).sum = hornerR cs x :=
  lagrange_interp_module (E := F) xs hnd cs hlen x

/-- interpolating `x ↦ x^k` through `k` distinct points and evaluating at 0 gives `-∏(-xᵢ)` -/
theorem interp_pow_at_zero (xs : List F) (hnd : xs.Nodup) (hk : 0 < xs.length) :
    (xs.map fun i => lagBasis xs 0 i * i ^ xs.length).sum = -(xs.map fun xi => -xi).prod := by
  have hcard : xs.toFinset.card = xs.length := List.toFinset_card_of_nodup hnd
  -- `X^k - ∏ (X - xᵢ)` has degree `< k` and agrees with `X^k` on the points
  have hdeg : (X ^ xs.length - Lagrange.nodal xs.toFinset id : F[X]).degree < xs.length := by
    have := degree_sub_lt_left (p := (X ^ xs.length : F[X])) (q := Lagrange.nodal xs.toFinset id)
      (by rw [degree_X_pow, Lagrange.degree_nodal, hcard]) (monic_X_pow _).ne_zero
      (by rw [(monic_X_pow _).leadingCoeff, Lagrange.nodal_monic.leadingCoeff])
    rwa [degree_X_pow] at this
  have h := lagrange_eval_list xs hnd _ hdeg 0
  simp only [eval_sub, eval_pow, eval_X, Lagrange.eval_nodal, id, zero_sub, zero_pow hk.ne',
    List.prod_toFinset _ hnd] at h
  rw [← h]
  refine congrArg List.sum (List.map_congr_left fun i hi => ?_)
  rw [List.prod_eq_zero (List.mem_map.mpr ⟨i, hi, sub_self i⟩), sub_zero]

end Frost

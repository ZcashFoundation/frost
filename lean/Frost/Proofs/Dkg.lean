/-
  Frost.Proofs.Dkg — distributed key generation: `sum_commitments`, the proof of knowledge and the
  per-sender loop of `part3` / `refresh_dkg_shares` characterised exactly; the public key package
  of all commitments; what a successful `part3` guarantees; the honest run of what `part3` and
  `refresh_dkg_shares` share (when `part3` returns: `dkgPart3_eq_ok`, Frost.Proofs.Steps).
-/
import Frost.Proofs.Basic
import Frost.Proofs.Maps
import Frost.Proofs.Steps

set_option linter.unusedSectionVars false

namespace Frost

variable {F E : Type} [Field F] [DecidableEq F] [AddCommGroup E] [Module F E] [DecidableEq E]

theorem vssR_zero (x : F) (C : List E) (hC : C ≠ []) : vssR C (0 : F) = C.head hC := by
  cases C with
  | nil => exact absurd rfl hC
  | cons c r => simp

theorem addCommitment_eq (acc c : List E) :
    (addCommitment acc c : Outcome F (List E)) =
      if acc.length ≤ c.length then .ok (List.zipWith (· + ·) acc c)
      else .error .IncorrectNumberOfCommitments := by
  induction acc generalizing c with
  | nil => rfl
  | cons g gs ih =>
    cases c with
    | nil => rfl
    | cons c0 cs =>
      unfold addCommitment
      rw [ih cs]
      simp only [List.length_cons, Nat.add_le_add_iff_right]
      by_cases h : gs.length ≤ cs.length
      · rw [if_pos h, if_pos h]; rfl
      · rw [if_neg h, if_neg h]

theorem sumLoop_spec (cs : List (List E)) (acc : List E) (L : Nat) (hacc : acc.length = L)
    (hL : ∀ c ∈ cs, c.length = L) :
    ∃ r, (sumLoop cs acc : Outcome F (List E)) = .ok r ∧ r.length = L ∧
      ∀ x : F, vssR r x = vssR acc x + (cs.map fun c => vssR c x).sum := by
  induction cs generalizing acc with
  | nil => exact ⟨acc, rfl, hacc, fun x => by simp⟩
  | cons c rest ih =>
    have hc : c.length = L := hL c List.mem_cons_self
    have hac : acc.length = c.length := hacc.trans hc.symm
    obtain ⟨r, hr, hlen, hv⟩ := ih (List.zipWith (· + ·) acc c)
      (by rw [List.length_zipWith, hac, Nat.min_self, hc])
      fun c' hc' => hL c' (List.mem_cons_of_mem _ hc')
    refine ⟨r, by unfold sumLoop; rw [addCommitment_eq, if_pos hac.le]; exact hr, hlen, fun x => ?_⟩
    simp only [hv, vssR_zipWith_add acc c hac, List.map_cons, List.sum_cons, add_assoc]

/-- `sum_commitments` of equally long commitment vectors: the result has the same length
    and evaluates ("in the exponent") to the sum of the evaluations. -/
theorem sumCommitments_spec (cs : List (List E)) (L : Nat) (hne : cs ≠ [])
    (hL : ∀ c ∈ cs, c.length = L) :
    ∃ r, (sumCommitments cs : Outcome F (List E)) = .ok r ∧ r.length = L ∧
      ∀ x : F, vssR r x = (cs.map fun c => vssR c x).sum := by
  cases cs with
  | nil => exact absurd rfl hne
  | cons c0 rest =>
    obtain ⟨r, hr, hlen, hv⟩ := sumLoop_spec (F := F) (c0 :: rest) (List.replicate c0.length 0) L
      (by rw [List.length_replicate]; exact hL c0 List.mem_cons_self) hL
    exact ⟨r, hr, hlen, fun x => by rw [hv, vssR_replicate_zero, zero_add]⟩

/-- **`verify_proof_of_knowledge` accepts exactly `R = μ•G − c•φ₀`** with `c` the challenge
    of `(id, φ₀, R)`. -/
theorem verifyPok_eq (S : Suite F E) (id : F) (phi0 : E) (rest : List E) (R : E) (μ c : F)
    (hc : dkgChallenge S id phi0 R = .ok c) :
    verifyProofOfKnowledge S id (phi0 :: rest) ⟨R, μ⟩ =
      if R = μ • S.G - c • phi0 then .ok () else .error (.InvalidProofOfKnowledge id) := by
  unfold verifyProofOfKnowledge
  simp only [List.head?_cons, hc, ne_eq, ite_not]

/-- completeness: the proof `(k•G, k + a₀c)` for the commitment `a₀•G :: _` verifies -/
theorem pok_complete (S : Suite F E) (id a0 k : F) (rest : List E) (c : F)
    (hc : dkgChallenge S id (a0 • S.G) (k • S.G) = .ok c) :
    verifyProofOfKnowledge S id (a0 • S.G :: rest) ⟨k • S.G, k + a0 * c⟩ = .ok () := by
  rw [verifyPok_eq S id _ rest _ _ c hc, if_pos]
  simp only [add_smul, mul_comm a0 c, mul_smul, add_sub_cancel_right]

/-- **The per-sender loop of `part3`**: it succeeds iff every round-two value `v` filed for
    sender `ℓ` satisfies `v•G = Σ_k i^k • C_{ℓ,k}` for the commitment `C_ℓ` *filed for the
    same sender* in round one; then it returns the sum. -/
theorem part3Loop_eq_ok {S : Suite F E} {me : F} {r1c : List (F × List E)} {culprit : Bool}
    {r2 : List (F × F)} {acc sum : F} :
    part3Loop S me r1c culprit r2 acc = .ok sum ↔
      (sum = acc + (r2.map (·.2)).sum ∧
       ∀ lv ∈ r2, ∃ C, SMap.get? r1c lv.1 = some C ∧ C ≠ [] ∧ lv.2 • S.G = vssR C me) := by
  induction r2 generalizing acc with
  | nil =>
    unfold part3Loop
    rw [Outcome.ok.injEq, List.map_nil, List.sum_nil, add_zero, eq_comm]
    exact (and_iff_left nofun).symm
  | cons lv rest ih =>
    obtain ⟨ell, v⟩ := lv
    unfold part3Loop
    simp only [List.forall_mem_cons, List.map_cons, List.sum_cons, ← add_assoc]
    cases hg : SMap.get? r1c ell with
    | none => simp only [reduceCtorEq, false_and, exists_false, and_false]
    | some C =>
      simp only [SecretShare.verify_eq, Option.some.injEq, exists_eq_left']
      by_cases he : v • S.G = vssR C me
      · cases C with
        | nil =>
          simp only [he, if_true, List.head?_nil, Option.elim_none, reduceCtorEq, ne_eq,
            not_true_eq_false, false_and, and_false]
        | cons c0 cr =>
          simp only [he, if_true, List.head?_cons, Option.elim_some, ih, ne_eq, reduceCtorEq,
            not_false_eq_true, and_self, true_and]
      · simp only [he, if_false, reduceCtorEq, and_false, false_and]

/-- a round-two value that does not match the filed commitment makes `part3`'s loop fail
    with the culprit, provided every earlier sender's value matches -/
theorem part3Loop_culprit (S : Suite F E) (me : F) (r1c : List (F × List E))
    (pre post : List (F × F)) (ell v : F) (C : List E) (acc : F)
    (hpre : ∀ lv ∈ pre, ∃ C, SMap.get? r1c lv.1 = some C ∧ C ≠ [] ∧ lv.2 • S.G = vssR C me)
    (hC : SMap.get? r1c ell = some C) (hbad : v • S.G ≠ vssR C me) :
    part3Loop S me r1c true (pre ++ (ell, v) :: post) acc =
      .error (.InvalidSecretShare (some ell)) := by
  induction pre generalizing acc with
  | nil => simp [part3Loop, hC, SecretShare.verify_of_ne S me v C hbad]
  | cons lv rest ih =>
    obtain ⟨C0, hC0, hne0, hv0⟩ := hpre lv List.mem_cons_self
    obtain ⟨c0, cr, rfl⟩ := List.exists_cons_of_ne_nil hne0
    rw [List.cons_append]
    unfold part3Loop
    simp only [hC0, SecretShare.verify_eq, if_pos hv0, List.head?_cons, Option.elim_some]
    exact ih _ fun lv hlv => hpre lv (List.mem_cons_of_mem _ hlv)

/-- what `PublicKeyPackage::from_dkg_commitments` returns for equally long commitments -/
theorem fromDkgCommitments_spec (cm : List (F × List E)) (L : Nat) (hne : cm ≠ [])
    (hL : ∀ ic ∈ cm, ic.2.length = L) (hLpos : 0 < L) :
    ∃ gc : List E, gc.length = L ∧
      (∀ x : F, vssR gc x = (cm.map fun ic => vssR ic.2 x).sum) ∧
      (PublicKeyPackage.fromDkgCommitments cm : Outcome F (PublicKeyPackage F E)) =
        .ok { vshares := (SMap.keys cm).map fun id => (id, vssR gc id),
              vk := vssR gc (0 : F), minSigners := some (asU16 L) } := by
  obtain ⟨gc, hgc, hlen, hv⟩ := sumCommitments_spec (F := F) (SMap.values cm) L
    (mt List.map_eq_nil_iff.mp hne) (List.forall_mem_map.mpr hL)
  obtain ⟨g0, gr, rfl⟩ := List.exists_cons_of_ne_nil (List.ne_nil_of_length_pos (hlen ▸ hLpos))
  refine ⟨_, hlen, fun x => by rw [hv x, SMap.values, List.map_map]; rfl, ?_⟩
  unfold PublicKeyPackage.fromDkgCommitments
  simp only [hgc, PublicKeyPackage.fromCommitment, List.head?_cons, evaluateVss_eq, hlen,
    vssR_cons, zero_smul, add_zero]

/-- `from_dkg_commitments` on the filed commitments with the participant's own inserted, as
    `part3` and `refresh_dkg_shares` call it -/
theorem fromDkgCommitments_insert (lt : F → F → Bool) (r1c : List (F × List E)) (me : F)
    (own : List E) (hme : me ∉ SMap.keys r1c) (hL : ∀ ic ∈ r1c, ic.2.length = own.length)
    (hne : own ≠ []) :
    ∃ (gc : List E) (pkp : PublicKeyPackage F E),
      (∀ x : F, vssR gc x = vssR own x + (r1c.map fun ic => vssR ic.2 x).sum) ∧
      (PublicKeyPackage.fromDkgCommitments (SMap.insert lt r1c me own) : Outcome F _) = .ok pkp ∧
      pkp.vk = vssR gc (0 : F) ∧ pkp.minSigners = some (asU16 own.length) ∧
      (SMap.keys pkp.vshares).Perm (me :: SMap.keys r1c) ∧
      ∀ id ∈ me :: SMap.keys r1c, SMap.get? pkp.vshares id = some (vssR gc id) := by
  have hperm := SMap.insert_perm_of_not_mem lt r1c me own hme
  have hkeys := SMap.keys_insert_of_not_mem lt r1c me own hme
  obtain ⟨gc, _, hgv, hpk⟩ := fromDkgCommitments_spec (F := F) (SMap.insert lt r1c me own)
    own.length (fun e => List.cons_ne_nil _ _ (e ▸ hperm).symm.eq_nil)
    (fun ic hic => by
      rcases List.mem_cons.mp (hperm.mem_iff.mp hic) with rfl | h
      · rfl
      · exact hL ic h)
    (List.length_pos_iff.mpr hne)
  exact ⟨gc, _, fun x => by rw [hgv, (hperm.map fun ic => vssR ic.2 x).sum_eq]; rfl, hpk, rfl, rfl,
    by rwa [SMap.keys_graph], fun id hid => SMap.get?_graph _ _ _ (hkeys.mem_iff.mpr hid)⟩

/-- Σ of the accepted round-two values times `G` = Σ of the filed commitments evaluated at `me`
    (the accepted values are exactly one per filed sender) -/
theorem part3Loop_sum_smul (S : Suite F E) (me : F) (r1c : List (F × List E)) (culprit : Bool)
    (r2 : List (F × F)) (sum : F) (hloop : part3Loop S me r1c culprit r2 0 = .ok sum)
    (hk1 : (SMap.keys r1c).Nodup) (hlen12 : r1c.length = r2.length)
    (hsub : ∀ a ∈ SMap.keys r1c, a ∈ SMap.keys r2) :
    sum • S.G = (r1c.map fun ic => vssR ic.2 me).sum := by
  obtain ⟨hsum, hall⟩ := part3Loop_eq_ok.mp hloop
  -- as many senders in round two as in round one, all of round one among them: the same senders
  have hkperm : (SMap.keys r1c).Perm (SMap.keys r2) :=
    (hk1.subperm hsub).perm_of_length_le
      (by rw [SMap.keys, SMap.keys, List.length_map, List.length_map, hlen12])
  rw [hsum, zero_add]
  have h1 : (r2.map (·.2)).sum • S.G =
      ((SMap.keys r2).map fun l => vssR ((SMap.get? r1c l).getD []) me).sum := by
    rw [List.sum_smul]
    simp only [SMap.keys, List.map_map]
    congr 1
    apply List.map_congr_left
    intro lv hlv
    obtain ⟨C, hC, _, hv⟩ := hall lv hlv
    simp only [Function.comp_apply, hC, Option.getD_some]
    exact hv
  rw [h1, ← (hkperm.map _).sum_eq]
  simp only [SMap.keys, List.map_map]
  congr 1
  apply List.map_congr_left
  intro ic hic
  have : SMap.get? r1c ic.1 = some ic.2 := SMap.get?_of_mem_nodup r1c hk1 ic.1 ic.2 hic
  simp [this]

/-- **Consistency of a successful `part3`** (suites without hooks).  If `part3` returns
    `(kp, pkp)`, the maps are well-formed (distinct keys), every filed round-one commitment
    has the length of the participant's own (which `part2` checked on the same map), and the
    participant's own state is the honest one, then the key package is internally consistent
    and consistent with the public key package:
    `verifying_share = signing_share • G = pkp[i]`, same group key, the thresholds. -/
theorem part3_ok_consistent (S : Suite F E)
    (hpost : ∀ kp pkp, S.postDkg kp pkp = (kp, pkp)) (sp : Round2Secret F E)
    (r1 : List (F × Round1Package F E)) (r2 : List (F × F))
    (kp : KeyPackage F E) (pkp : PublicKeyPackage F E)
    (h : dkgPart3 S sp r1 r2 = .ok (kp, pkp))
    (hk1 : (SMap.keys r1).Nodup) (hk2 : (SMap.keys r2).Nodup)
    (hlen : ∀ ip ∈ r1, ip.2.commitment.length = sp.commitment.length)
    (hne : sp.commitment ≠ [])
    (hown : sp.secretShare • S.G = vssR sp.commitment sp.id) :
    kp.id = sp.id ∧ kp.vshare = kp.share • S.G ∧ kp.vk = pkp.vk ∧
    kp.minSigners = sp.minSigners ∧ pkp.minSigners = some (asU16 sp.commitment.length) ∧
    SMap.get? pkp.vshares sp.id = some kp.vshare ∧
    (SMap.keys pkp.vshares).Perm (sp.id :: SMap.keys r1) := by
  obtain ⟨_, _, hme, _, hlen12, hsub, sum, pkp', hloop, hpk, hout⟩ :=
    (dkgPart3_eq_ok S sp r1 r2 (kp, pkp)).mp h
  rw [← SMap.keys_map_snd r1 fun ip => ip.2.commitment] at hme hk1 hsub ⊢
  obtain ⟨gc, _, hgv, hpk', _, hmin, hkeys, hget⟩ := fromDkgCommitments_insert S.idLt _ sp.id
    sp.commitment hme (List.forall_mem_map.mpr hlen) hne
  have hsumG := part3Loop_sum_smul S sp.id _ true r2 sum hloop hk1 (by rwa [List.length_map]) hsub
  cases hpk'.symm.trans hpk
  rw [hpost] at hout
  cases hout
  refine ⟨rfl, rfl, rfl, rfl, hmin, ?_, hkeys⟩
  simp only [hget sp.id List.mem_cons_self, hgv, add_smul, hsumG, hown, add_comm]

theorem part3Loop_honest (S : Suite F E) (me : F) (r1c : List (F × List E)) (culprit : Bool)
    (p : F → List F) (hnd : (SMap.keys r1c).Nodup)
    (hC : ∀ ic ∈ r1c, ic.2 = (p ic.1).map fun c => c • S.G) (hp : ∀ ic ∈ r1c, p ic.1 ≠ []) :
    part3Loop S me r1c culprit (r1c.map fun ic => (ic.1, hornerR (p ic.1) me)) 0 =
      .ok ((SMap.keys r1c).map fun l => hornerR (p l) me).sum := by
  refine part3Loop_eq_ok.mpr
    ⟨by rw [zero_add, List.map_map, SMap.keys, List.map_map]; rfl,
      List.forall_mem_map.mpr fun ic hic => ?_⟩
  refine ⟨ic.2, SMap.get?_of_mem_nodup r1c hnd ic.1 ic.2 hic, ?_, ?_⟩
  · rw [hC ic hic]; exact mt List.map_eq_nil_iff.mp (hp ic hic)
  · rw [hC ic hic, vssR_map_smul]

/-- **The honest run of what `part3` and `refresh_dkg_shares` share.**  Participant `ℓ` filed the
    commitment to its polynomial `p ℓ` and sent `(p ℓ)(me)`: the loop returns the sum of the
    received values, and the package of all commitments is the image of the summed polynomial
    `P = p me + Σ_ℓ p ℓ`. -/
theorem honest_loop_and_package (S : Suite F E) (me : F) (r1c : List (F × List E)) (culprit : Bool)
    (p : F → List F) (t : Nat) (ht : 0 < t) (hp : ∀ l, (p l).length = t)
    (hme : me ∉ SMap.keys r1c) (hnd : (SMap.keys r1c).Nodup)
    (hC : ∀ ic ∈ r1c, ic.2 = (p ic.1).map fun c => c • S.G) :
    let P := fun x => hornerR (p me) x + ((SMap.keys r1c).map fun l => hornerR (p l) x).sum
    part3Loop S me r1c culprit (r1c.map fun ic => (ic.1, hornerR (p ic.1) me)) 0 =
      .ok ((SMap.keys r1c).map fun l => hornerR (p l) me).sum ∧
    ∃ pkp : PublicKeyPackage F E,
      PublicKeyPackage.fromDkgCommitments
        (SMap.insert S.idLt r1c me ((p me).map fun c => c • S.G)) = .ok pkp ∧
      pkp.vk = P 0 • S.G ∧ pkp.minSigners = some (asU16 t) ∧
      (SMap.keys pkp.vshares).Perm (me :: SMap.keys r1c) ∧
      ∀ id ∈ me :: SMap.keys r1c, SMap.get? pkp.vshares id = some (P id • S.G) := by
  intro P
  have hpne : ∀ l, p l ≠ [] := fun l => List.ne_nil_of_length_pos (hp l ▸ ht)
  obtain ⟨gc, pkp, hgv, hpk, hvk, hmin, hkeys, hget⟩ := fromDkgCommitments_insert S.idLt r1c me
    ((p me).map fun c => c • S.G) hme
    (fun ic hic => by rw [hC ic hic, List.length_map, List.length_map, hp, hp])
    (mt List.map_eq_nil_iff.mp (hpne me))
  -- each filed commitment evaluates to its sender's value times `G`
  have hgc : ∀ x : F, vssR gc x = P x • S.G := fun x => by
    rw [hgv, vssR_map_smul, add_smul, List.sum_smul, SMap.keys, List.map_map, List.map_map]
    exact congrArg _ (congrArg _ (List.map_congr_left fun ic hic => by
      rw [hC ic hic, vssR_map_smul]; rfl))
  exact ⟨part3Loop_honest S me r1c culprit p hnd hC fun ic _ => hpne ic.1, pkp, hpk,
    by rw [hvk, hgc], by rw [hmin, List.length_map, hp], hkeys,
    fun id hid => by rw [hget id hid, hgc]⟩

end Frost

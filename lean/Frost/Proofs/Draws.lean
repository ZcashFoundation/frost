/-
  Frost.Proofs.Draws — the `Field::random` models of the reference backends are PREFIX draws
  (`Frost.C16.PrefixDraw`): they consume a prefix of the tape and the value depends on that prefix
  only.  Wide reduction (curve25519-dalek, ed448-goldilocks) is one draw; rejection sampling
  (k256, p256) consumes every 32-byte block that is not below the group order, all discarded, then
  the first block that is — the value is never a fixed fallback.
-/
import Frost.Ref.Suites
import Frost.Proofs.Steps

namespace Frost
namespace Ref

/-- wide reduction: one draw of `n` bytes -/
theorem randomWide_prefix (q n : Nat) (t : Tape) (v : Fq q) (t' : Tape)
    (h : randomWide q n t = some (v, t')) :
    ∃ b, t = b ++ t' ∧ b.length = n ∧ ∀ rest, randomWide q n (b ++ rest) = some (v, rest) := by
  rw [randomWide] at h
  split at h
  · cases h
  rename_i b t1 hd
  cases h
  obtain ⟨ht, hl⟩ := Tape.draw_split hd
  exact ⟨b, ht, hl, fun rest => by rw [randomWide, ← hl, Tape.draw_append]⟩

/-- rejection sampling: the consumed prefix is a run of discarded blocks (each not below `q`)
    followed by the accepted block, whose big-endian value IS the result; replaying that prefix
    followed by anything, with fuel for at least that many blocks, gives the same value -/
theorem randomRejection_prefix (q : Nat) : ∀ (fuel : Nat) (t : Tape) (v : Fq q) (t' : Tape),
    randomRejection q fuel t = some (v, t') →
    ∃ (rejected : List Bytes) (acc : Bytes),
      t = rejected.flatten ++ acc ++ t' ∧ acc.length = 32 ∧ beToNat acc < q ∧ v = ⟨beToNat acc⟩ ∧
      (∀ r ∈ rejected, r.length = 32 ∧ ¬ beToNat r < q) ∧
      ∀ rest fuel', rejected.length + 1 ≤ fuel' →
        randomRejection q fuel' (rejected.flatten ++ acc ++ rest) = some (v, rest) := by
  intro fuel
  induction fuel with
  | zero => intro t v t' h; cases h
  | succ f ih =>
    intro t v t' h
    rw [randomRejection] at h
    split at h
    · cases h
    rename_i blk t1 hd
    obtain ⟨rfl, hl⟩ := Tape.draw_split hd
    have step : ∀ rest f', randomRejection q (f' + 1) (blk ++ rest) =
        if beToNat blk < q then some (⟨beToNat blk⟩, rest) else randomRejection q f' rest :=
      fun rest f' => by rw [randomRejection, ← hl, Tape.draw_append]
    by_cases hlt : beToNat blk < q
    · rw [if_pos hlt] at h
      cases h
      refine ⟨[], blk, rfl, hl, hlt, rfl, fun _ hr => (nomatch hr), fun rest fuel' hf => ?_⟩
      obtain ⟨f', rfl⟩ := Nat.exists_eq_add_one_of_ne_zero
        (Nat.ne_of_gt (Nat.lt_of_lt_of_le (Nat.succ_pos _) hf))
      rw [List.flatten_nil, List.nil_append, step, if_pos hlt]
    · rw [if_neg hlt] at h
      obtain ⟨rej, acc, rfl, hal, haq, hv, hrej, hfr⟩ := ih t1 v t' h
      have assoc : ∀ rest, (blk :: rej).flatten ++ acc ++ rest = blk ++ (rej.flatten ++ acc ++ rest) :=
        fun rest => by rw [List.flatten_cons, List.append_assoc, List.append_assoc, List.append_assoc]
      refine ⟨blk :: rej, acc, (assoc t').symm, hal, haq, hv,
        List.forall_mem_cons.2 ⟨⟨hl, hlt⟩, hrej⟩, fun rest fuel' hf => ?_⟩
      obtain ⟨f', rfl⟩ := Nat.exists_eq_add_one_of_ne_zero
        (Nat.ne_of_gt (Nat.lt_of_lt_of_le (Nat.succ_pos _) hf))
      rw [assoc, step, if_neg hlt]
      exact hfr rest f' (Nat.le_of_succ_le_succ hf)

/-- …hence the k256 / p256 `Field::random` model (fuel = as many blocks as the tape holds) is a
    prefix draw -/
theorem randomRejection_prefixDraw (q : Nat) (t : Tape) (v : Fq q) (t' : Tape)
    (h : randomRejection q (t.length / 32 + 1) t = some (v, t')) :
    ∃ b, t = b ++ t' ∧
      ∀ rest, randomRejection q ((b ++ rest).length / 32 + 1) (b ++ rest) = some (v, rest) := by
  obtain ⟨rej, acc, ht, hal, _, _, hrej, hfr⟩ := randomRejection_prefix q _ t v t' h
  refine ⟨rej.flatten ++ acc, ht, fun rest => ?_⟩
  have hlen : rej.flatten.length = rej.length * 32 := by
    rw [List.length_flatten, List.map_congr_left fun r hr => (hrej r hr).1, List.map_const',
      List.sum_replicate_nat]
  apply hfr
  simp only [List.length_append, hlen, hal]
  omega

end Ref
end Frost

/-
  Frost.Proofs.Prime25519 — `2^255 - 19` is prime: one Pratt certificate (the table is printed by
  `notes/gencert.py`; nothing about it is trusted), one kernel evaluation of the checker
  `Frost.Pratt.check`.
-/
import Frost.Proofs.Lucas

namespace Frost.Ref

/-- lines `⟨p, witness, prime factors of p - 1⟩`: `2^255 - 19` first, then every prime that occurs -/
def cert25519 : List Pratt.Line :=
 [⟨57896044618658097711785492504343953926634992332820282019728792003956564819949, 2, [2, 3, 65147, 74058212732561358302231226437062788676166966415465897661863160754340907]⟩,
  ⟨2, 1, []⟩,
  ⟨3, 2, [2]⟩,
  ⟨5, 2, [2]⟩,
  ⟨7, 3, [2, 3]⟩,
  ⟨11, 2, [2, 5]⟩,
  ⟨13, 2, [2, 3]⟩,
  ⟨17, 3, [2]⟩,
  ⟨19, 2, [2, 3]⟩,
  ⟨23, 5, [2, 11]⟩,
  ⟨29, 2, [2, 7]⟩,
  ⟨31, 3, [2, 3, 5]⟩,
  ⟨37, 2, [2, 3]⟩,
  ⟨41, 6, [2, 5]⟩,
  ⟨43, 3, [2, 3, 7]⟩,
  ⟨47, 5, [2, 23]⟩,
  ⟨53, 2, [2, 13]⟩,
  ⟨59, 2, [2, 29]⟩,
  ⟨83, 2, [2, 41]⟩,
  ⟨97, 5, [2, 3]⟩,
  ⟨103, 5, [2, 3, 17]⟩,
  ⟨107, 2, [2, 53]⟩,
  ⟨127, 3, [2, 3, 7]⟩,
  ⟨131, 2, [2, 5, 13]⟩,
  ⟨173, 2, [2, 43]⟩,
  ⟨223, 3, [2, 3, 37]⟩,
  ⟨239, 7, [2, 7, 17]⟩,
  ⟨353, 3, [2, 11]⟩,
  ⟨419, 2, [2, 11, 19]⟩,
  ⟨479, 13, [2, 239]⟩,
  ⟨487, 3, [2, 3]⟩,
  ⟨991, 6, [2, 3, 5, 11]⟩,
  ⟨1723, 3, [2, 3, 7, 41]⟩,
  ⟨2437, 2, [2, 3, 7, 29]⟩,
  ⟨3727, 3, [2, 3, 23]⟩,
  ⟨4153, 5, [2, 3, 173]⟩,
  ⟨9463, 3, [2, 3, 19, 83]⟩,
  ⟨32573, 2, [2, 17, 479]⟩,
  ⟨37853, 2, [2, 9463]⟩,
  ⟨57467, 2, [2, 59, 487]⟩,
  ⟨65147, 2, [2, 32573]⟩,
  ⟨75707, 2, [2, 37853]⟩,
  ⟨132049, 26, [2, 3, 7, 131]⟩,
  ⟨430751, 17, [2, 5, 1723]⟩,
  ⟨569003, 2, [2, 7, 97, 419]⟩,
  ⟨1923133, 2, [2, 3, 43, 3727]⟩,
  ⟨8574133, 2, [2, 3, 7, 103, 991]⟩,
  ⟨2773320623, 5, [2, 2437, 569003]⟩,
  ⟨72106336199, 7, [2, 13, 2773320623]⟩,
  ⟨1919519569386763, 2, [2, 3, 7, 19, 47, 127, 8574133]⟩,
  ⟨31757755568855353, 10, [2, 3, 31, 107, 223, 4153, 430751]⟩,
  ⟨75445702479781427272750846543864801, 7, [2, 3, 5, 75707, 72106336199, 1919519569386763]⟩,
  ⟨74058212732561358302231226437062788676166966415465897661863160754340907, 2, [2, 3, 353, 57467, 132049, 1923133, 31757755568855353, 75445702479781427272750846543864801]⟩]

/-- the field prime of Curve25519 -/
theorem p25519_prime : Nat.Prime (2 ^ 255 - 19) :=
  Pratt.check_sound (show Pratt.check cert25519 = true by decide +kernel) _ List.mem_cons_self

end Frost.Ref

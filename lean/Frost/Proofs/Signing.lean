/-
  Frost.Proofs.Signing — exact characterisation of `sign`, `verify_signature_share`
  and `aggregate_custom` of the model in a signing session whose hash-derived
  values (binding factors, group commitment, challenge) exist.

  The theorems hold for every suite that meets `SignSession.OkS` in the session: the suites
  without hooks (`okS_of_ok`, here) and the Taproot suite (`okS_of_ok0`, TaprootSigning).
-/
import Frost.Proofs.Basic
import Frost.Proofs.Lagrange
import Frost.Proofs.Steps

set_option linter.unusedSectionVars false

namespace Frost

variable {F E : Type} [Field F] [DecidableEq F] [AddCommGroup E] [Module F E] [DecidableEq E]

/-- the multiscalar multiplication returns `Σ sᵢ • Pᵢ` whenever it returns -/
def MsmSound (le : F → Bytes) : Prop :=
  ∀ (ss : List F) (es : List E) (v : E), vartimeMultiscalarMul le ss es = some v →
    v = (List.zipWith (fun s e => s • e) ss es).sum

section ofBase
variable (B : Base F E)
@[simp] theorem ofBase_toBase : (Suite.ofBase B).toBase = B := rfl
@[simp] theorem ofBase_preSign (kp : KeyPackage F E) : (Suite.ofBase B).preSign kp = kp := rfl
@[simp] theorem ofBase_preAggregate (p : PublicKeyPackage F E) :
    (Suite.ofBase B).preAggregate p = p := rfl
@[simp] theorem ofBase_preVerify (sig : Signature F E) (vk : E) :
    (Suite.ofBase B).preVerify sig vk = (sig, vk) := rfl
@[simp] theorem ofBase_challenge : (Suite.ofBase B).challenge = B.defaultChallenge := rfl
@[simp] theorem ofBase_computeSignatureShare (R : E) (n : SigningNonces F E) (rho lam : F)
    (kp : KeyPackage F E) (c : F) :
    (Suite.ofBase B).computeSignatureShare R n rho lam kp c =
      defaultComputeSignatureShare n rho lam kp c := rfl
@[simp] theorem ofBase_verifyShare (R : E) (z id : F) (Rs Y : E) (lam c : F) :
    (Suite.ofBase B).verifyShare R z id Rs Y lam c = B.shareVerify z id Rs Y lam c := rfl
@[simp] theorem ofBase_generateNonce : (Suite.ofBase B).generateNonce = B.defaultGenerateNonce := rfl
@[simp] theorem ofBase_postDkg (kp : KeyPackage F E) (p : PublicKeyPackage F E) :
    (Suite.ofBase B).postDkg kp p = (kp, p) := rfl
@[simp] theorem ofBase_singleSignKey (s : F) : (Suite.ofBase B).singleSignKey s = s := rfl
end ofBase

/-- binding factor of `id` in a binding-factor list (0 if absent) -/
def rhoAt (bfl : List (F × F)) (id : F) : F := (SMap.get? bfl id).getD 0

theorem gcLoop_spec {bfl : List (F × F)} {comms : List (F × SigningCommitments E)}
    {gc : E} {ss : List F} {es : List E} {gc' : E} {ss' : List F} {es' : List E}
    (h : gcLoop bfl comms (gc, ss, es) = .ok (gc', ss', es')) :
    gc' = gc + (comms.map fun c => c.2.hid).sum ∧
    ss' = ss ++ comms.map (fun c => rhoAt bfl c.1) ∧
    es' = es ++ comms.map (fun c => c.2.bnd) ∧
    (∀ c ∈ comms,
      SMap.get? bfl c.1 = some (rhoAt bfl c.1) ∧ c.2.hid ≠ 0 ∧ c.2.bnd ≠ 0) := by
  induction comms generalizing gc ss es with
  | nil =>
    simp only [gcLoop, Outcome.ok.injEq, Prod.mk.injEq] at h
    obtain ⟨rfl, rfl, rfl⟩ := h
    simp
  | cons ic rest ih =>
    obtain ⟨id, c⟩ := ic
    unfold gcLoop at h
    split at h
    · cases h
    · rename_i hid
      cases hg : SMap.get? bfl id with
      | none => simp [hg] at h
      | some rho =>
        simp only [hg] at h
        obtain ⟨h1, h2, h3, h4⟩ := ih h
        have hr : rhoAt bfl id = rho := by simp [rhoAt, hg]
        refine ⟨?_, ?_, ?_, ?_⟩
        · rw [h1]; simp [add_assoc]
        · rw [h2]; simp [hr]
        · rw [h3]; simp
        · intro x hx
          rcases List.mem_cons.mp hx with e | e
          · subst e
            simp only [Bool.or_eq_true, decide_eq_true_eq, not_or] at hid
            exact ⟨hr ▸ hg, fun e => hid.2 e.symm, fun e => hid.1 e.symm⟩
          · exact h4 x e

/-- what a group commitment that was computed says: the facts about each signer's entry need nothing
    about the multiscalar code, only the value of `R` does -/
theorem computeGroupCommitment_eq {S : Suite F E} {pkg : SigningPackage F E} {bfl : List (F × F)}
    {R : E} (h : computeGroupCommitment S pkg bfl = .ok R) :
    (∀ c ∈ pkg.commitments,
      SMap.get? bfl c.1 = some (rhoAt bfl c.1) ∧ c.2.hid ≠ 0 ∧ c.2.bnd ≠ 0) ∧
    (MsmSound (E := E) S.leBytes →
      R = (pkg.commitments.map fun c => c.2.hid + rhoAt bfl c.1 • c.2.bnd).sum) := by
  unfold computeGroupCommitment at h
  split at h
  · rename_i gc ss es hl
    obtain ⟨h1, h2, h3, h4⟩ := gcLoop_spec hl
    refine ⟨h4, fun hmsm => ?_⟩
    split at h
    · rename_i acc hm
      cases h
      rw [hmsm ss es acc hm, h1, h2, h3]
      simp only [List.nil_append, zero_add, List.zipWith_map, List.zipWith_self, List.sum_map_add]
    · cases h
  · cases h
  · cases h

/-- The data of one signing session: signer identifiers in map order, nonces `d, e`,
    the hash-derived values `bfl`, `R`, `c`.  Every commitment of the session's package is
    `d i • G`, `e i • G` (`pkg` below): the session theorems speak of commitments whose discrete
    logarithms exist, which is every commitment when `G` generates `E`. -/
structure SignSession (F E : Type) where
  ids : List F
  d : F → F
  e : F → F
  msg : Bytes
  vk : E
  bfl : List (F × F)
  R : E
  c : F

namespace SignSession
variable (B : Base F E) (X : SignSession F E)

def pkg : SigningPackage F E :=
  ⟨X.ids.map fun i => (i, ⟨X.d i • B.G, X.e i • B.G⟩), X.msg⟩

def nonces (i : F) : SigningNonces F E := ⟨X.d i, X.e i, ⟨X.d i • B.G, X.e i • B.G⟩⟩

/-- the session's hash-derived values exist and are the ones recorded in `X`.  (`msm` speaks of `B`
    alone; it is a field so that the session theorems take one hypothesis.) -/
structure Ok : Prop where
  nodup : X.ids.Nodup
  hbfl : computeBindingFactorList (Suite.ofBase B) (X.pkg B) X.vk [] = .ok X.bfl
  hR : computeGroupCommitment (Suite.ofBase B) (X.pkg B) X.bfl = .ok X.R
  hc : B.defaultChallenge X.R X.vk X.msg = .ok X.c
  msm : MsmSound (E := E) B.leBytes

def rho (i : F) : F := rhoAt X.bfl i
def lam (i : F) : F := lagBasis X.ids 0 i
/-- the honest share of signer `i` holding secret share `s` -/
def honest (s : F → F) (i : F) : F := X.d i + X.e i * X.rho i + X.lam i * s i * X.c

/-- **What the signing theorems need of a suite `S` in session `X`.**  The hash-derived values
    exist, the `pre_*` hooks leave packages for the key `X.vk` alone, and the group commitment
    enters share computation, share verification and signature verification as `sg • ·`:
    `sg = 1` for a suite without hooks, `sg = ±1` (parity of `R`) for Taproot.  `hc` is the
    challenge `sign` and `detect_cheater` compute (from `R`), `hc'` the one `verify_signature`
    computes after `pre_verify` (from `sg • R`).  Distinct identifiers (`Ok.nodup`) are not part
    of it: the theorems that interpolate take them separately. -/
structure OkS (S : Suite F E) (sg : F) : Prop where
  hbfl : computeBindingFactorList S (X.pkg S.toBase) X.vk [] = .ok X.bfl
  hR : computeGroupCommitment S (X.pkg S.toBase) X.bfl = .ok X.R
  msm : MsmSound (E := E) S.leBytes
  hc : S.challenge X.R X.vk X.msg = .ok X.c
  preSign : ∀ kp : KeyPackage F E, kp.vk = X.vk → S.preSign kp = kp
  preAggregate : ∀ p : PublicKeyPackage F E, p.vk = X.vk → S.preAggregate p = p
  preVerify : ∀ z, S.preVerify ⟨X.R, z⟩ X.vk = (⟨sg • X.R, z⟩, X.vk)
  hc' : S.challenge (sg • X.R) X.vk X.msg = .ok X.c
  share : ∀ (n : SigningNonces F E) (rho lam : F) (kp : KeyPackage F E) (c : F),
    S.computeSignatureShare X.R n rho lam kp c = sg * (n.hid + n.bnd * rho) + lam * kp.share * c
  verifyShare : ∀ (z id : F) (Rs Y : E) (lam c : F),
    S.verifyShare X.R z id Rs Y lam c = S.shareVerify z id (sg • Rs) Y lam c

def honestS (sg : F) (s : F → F) (i : F) : F :=
  sg * (X.d i + X.e i * X.rho i) + X.lam i * s i * X.c

/-- the verification equation of signer `i` for the share `z` against the verifying share `Y` -/
def shareOkS (sg : F) (Y : E) (z : F) (i : F) : Prop :=
  z • B.G = sg • (X.d i • B.G + X.rho i • (X.e i • B.G)) + X.lam i • (X.c • Y)

instance (sg : F) (Y : E) (z : F) (i : F) : Decidable (X.shareOkS B sg Y z i) := by
  unfold shareOkS; infer_instance

variable {B X} {S : Suite F E} {sg : F}

theorem honestS_one : X.honestS 1 = X.honest := by
  funext s i
  unfold honestS honest
  rw [one_mul]

theorem okS_of_ok (h : X.Ok B) : X.OkS (Suite.ofBase B) 1 where
  hbfl := h.hbfl
  hR := h.hR
  msm := h.msm
  hc := h.hc
  preSign _ _ := rfl
  preAggregate _ _ := rfl
  preVerify z := by rw [one_smul]; rfl
  hc' := by rw [one_smul]; exact h.hc
  share n rho lam kp c := by rw [one_mul]; rfl
  verifyShare z id Rs Y lam c := by rw [one_smul]; rfl

theorem keys_pkg : SMap.keys (X.pkg B).commitments = X.ids := SMap.keys_graph _ _

theorem get_comm {i : F} (hi : i ∈ X.ids) :
    SMap.get? (X.pkg B).commitments i = some ⟨X.d i • B.G, X.e i • B.G⟩ :=
  SMap.get?_graph X.ids _ i hi

theorem lam_eq {i : F} (hi : i ∈ X.ids) :
    deriveInterpolatingValue i (X.pkg B) = .ok (X.lam i) := by
  unfold deriveInterpolatingValue
  rw [keys_pkg, computeLagrangeCoefficient_eq _ _ _ hi]; rfl

namespace OkS

theorem get_bfl (h : X.OkS S sg) {i : F} (hi : i ∈ X.ids) :
    SMap.get? X.bfl i = some (X.rho i) :=
  ((computeGroupCommitment_eq h.hR).1 (i, ⟨X.d i • S.G, X.e i • S.G⟩)
    (List.mem_map.mpr ⟨i, hi, rfl⟩)).1

theorem R_eq (h : X.OkS S sg) :
    X.R = (X.ids.map fun i => X.d i • S.G + X.rho i • (X.e i • S.G)).sum := by
  rw [(computeGroupCommitment_eq h.hR).2 h.msm, pkg, List.map_map]
  rfl

theorem precomputed_eq (h : X.OkS S sg) (i : F) (hi : i ∈ X.ids) (z : F) (Y : E) :
    verifySignatureSharePrecomputed S i (X.pkg S.toBase) X.bfl X.R z Y X.c =
      if X.shareOkS S.toBase sg Y z i then .ok () else .error (.InvalidSignatureShare [i]) := by
  unfold verifySignatureSharePrecomputed
  simp only [lam_eq hi, h.get_bfl hi, get_comm hi, h.verifyShare, shareVerify_eq, shareOkS]

theorem verifySignature_eq (h : X.OkS S sg) (z : F) :
    verifySignature S X.vk (X.pkg S.toBase).message ⟨X.R, z⟩ =
      if S.cofactor • ((z • S.G - X.c • X.vk) - sg • X.R) = 0 then .ok ()
      else .error .InvalidSignature := by
  unfold verifySignature
  simp only [h.preVerify, show (X.pkg S.toBase).message = X.msg from rfl, h.hc',
    Base.verifyPrehashed]

end OkS

/-- **`sign` returns exactly `sg·(dᵢ + eᵢρᵢ) + λᵢ sᵢ c`** for a signer whose commitments are in
    the package and whose key package records a threshold not above the number of signers. -/
theorem sign_eq (h : X.OkS S sg) (i : F) (hi : i ∈ X.ids) (s : F → F) (Y : E) (m : Nat)
    (hm : m ≤ X.ids.length) :
    sign S (X.pkg S.toBase) (X.nonces S.toBase i) ⟨i, s i, Y, X.vk, m⟩ =
      .ok (X.honestS sg s i) := by
  unfold sign
  have h1 : ¬ (X.pkg S.toBase).commitments.length < m := by
    simp only [pkg, List.length_map]; omega
  simp only [h1, if_false, get_comm hi, nonces, ne_eq, not_true_eq_false,
    h.preSign ⟨i, s i, Y, X.vk, m⟩ rfl, h.hbfl]
  unfold signCore
  simp only [h.get_bfl hi, h.hR, lam_eq hi, show (X.pkg S.toBase).message = X.msg from rfl,
    h.hc, h.share]
  rfl

/-- **`verify_signature_share` accepts exactly the shares that satisfy `shareOkS`** against the
    verifying share it is given. -/
theorem verifySignatureShare_eq (h : X.OkS S sg) (i : F) (hi : i ∈ X.ids) (z : F) (Y : E) :
    verifySignatureShare S i Y z (X.pkg S.toBase) X.vk =
      if X.shareOkS S.toBase sg Y z i then .ok () else .error (.InvalidSignatureShare [i]) := by
  unfold verifySignatureShare
  simp only [h.preAggregate ⟨[(i, Y)], X.vk, none⟩ rfl, SMap.get?_cons, if_true, h.hbfl, h.hR,
    show (X.pkg S.toBase).message = X.msg from rfl, h.hc]
  exact h.precomputed_eq i hi z Y

/-- the submitted shares as the map handed to `aggregate` (same key order as the package) -/
def sharesMap (z : F → F) : List (F × F) := X.ids.map fun i => (i, z i)

theorem keys_sharesMap (z : F → F) : SMap.keys (X.sharesMap z) = X.ids := SMap.keys_graph _ _

theorem values_sharesMap (z : F → F) : SMap.values (X.sharesMap z) = X.ids.map z := by
  simp [sharesMap, SMap.values, Function.comp_def]

/-- **Exact behaviour of `aggregate_custom`** on one share per signer and a public key package
    listing `Y i`: the signature `(R, Σz)` is released iff it satisfies the (cofactored)
    verification equation; otherwise the error is `culpritReport` over the signers whose share
    fails `shareOkS`. -/
theorem aggregate_eq (h : X.OkS S sg) (Y : F → E) (z : F → F) (pkp : PublicKeyPackage F E)
    (hvk : pkp.vk = X.vk) (hvs : ∀ i ∈ X.ids, SMap.get? pkp.vshares i = some (Y i))
    (hmin : ∀ m, pkp.minSigners = some m → m ≤ X.ids.length) (mode : CheaterDetection) :
    aggregateCustom S (X.pkg S.toBase) (X.sharesMap z) pkp mode =
      if S.cofactor • (((X.ids.map z).sum • S.G - X.c • X.vk) - sg • X.R) = 0 then
        .ok ⟨X.R, (X.ids.map z).sum⟩
      else .error (culpritReport X.ids (fun i => decide (¬ X.shareOkS S.toBase sg (Y i) (z i) i))
        mode) := by
  unfold aggregateCustom
  have hlen : (X.pkg S.toBase).commitments.length = (X.sharesMap z).length := by
    simp [pkg, sharesMap]
  have hmin' : belowMin pkp.minSigners (X.sharesMap z).length = false := by
    unfold belowMin
    cases hm : pkp.minSigners with
    | none => rfl
    | some m =>
      have := hmin m hm
      simp only [sharesMap, List.length_map, decide_eq_false_iff_not]; omega
  have hall : ((SMap.keys (X.pkg S.toBase).commitments).all
      (idKnown mode (X.sharesMap z) pkp.vshares)) = true := by
    rw [keys_pkg, List.all_eq_true]
    intro i hi
    have h1 : SMap.contains (X.sharesMap z) i = true := by
      rw [SMap.contains_iff, keys_sharesMap]; exact hi
    have h2 : SMap.contains pkp.vshares i = true := by
      unfold SMap.contains
      rw [hvs i hi]
      rfl
    unfold idKnown
    cases mode <;> simp [h1, h2]
  rw [if_neg (not_not.mpr hlen), if_neg (by rw [hmin']; exact Bool.false_ne_true),
    if_neg (by rw [hall]; exact Bool.false_ne_true)]
  simp only [h.preAggregate pkp hvk, hvk, h.hbfl]
  unfold aggregateCore
  simp only [h.hR, values_sharesMap, ← List.sum_eq_foldl, hvk]
  rw [h.verifySignature_eq]
  split_ifs with hchk
  · rfl
  · have hdet := detectCheater_eq (bfl := X.bfl) (z := z) (mode := mode) (hvk ▸ h.hc)
      (fun i => decide (¬ X.shareOkS S.toBase sg (Y i) (z i) i)) fun i hi =>
        ⟨Y i, hvs i hi,
          (h.precomputed_eq i hi _ _).trans (by simp only [decide_eq_true_eq, ite_not])⟩
    cases mode with
    | Disabled => rfl
    | _ =>
      simp only
      rw [sharesMap, hdet nofun]

end SignSession
end Frost

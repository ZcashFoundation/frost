/-
  C01 — Any t-or-more honest signers produce a signature that verifies as a plain one.

  Stated for the ciphersuites that override no hooks (five of six; the Taproot suite
  is C18), for every field `F`, module `E`, generator, hash functions, identifier
  order, threshold, signer list (any length ≥ t), message, sharing polynomial and
  nonces.  The session's hash-derived values are required to *exist*
  (`SignSession.Ok`: the commitments, the group commitment `R` and the key are
  encodable, i.e. not the identity — the hypothesis named in DESIGN.md §7/C01);
  everything else is proved.
-/
import Frost.Props.C04
import Frost.Props.C05
import Frost.Proofs.LeSoundRef
import Frost.Proofs.Wire

set_option linter.unusedSectionVars false

namespace Frost.C01
open Frost Frost.SignSession

variable {F E : Type} [Field F] [DecidableEq F] [AddCommGroup E] [Module F E] [DecidableEq E]

/-- **Sign → share verification → aggregation → verification all succeed** for any
    signer list `X.ids` of distinct identifiers with `t = |cs| ≤ |X.ids|`, where
    participant `i` holds `f(i)` for the sharing polynomial `f` with coefficients `cs`
    and the group key is `f(0) • G`. -/
theorem sign_aggregate_verify (B : Base F E) (X : SignSession F E) (h : X.Ok B)
    (cs : List F) (hlen : cs.length ≤ X.ids.length) (hvk : X.vk = hornerR cs 0 • B.G)
    (pkp : PublicKeyPackage F E) (hpvk : pkp.vk = X.vk)
    (hvs : ∀ i ∈ X.ids, SMap.get? pkp.vshares i = some (hornerR cs i • B.G))
    (hmin : ∀ m, pkp.minSigners = some m → m ≤ X.ids.length)
    (m : Nat) (hm : m ≤ X.ids.length) :
    let s := fun i => hornerR cs i
    let σ : Signature F E := ⟨X.R, (X.ids.map (X.honest s)).sum⟩
    (∀ i ∈ X.ids, sign (Suite.ofBase B) (X.pkg B) (X.nonces B i)
        ⟨i, s i, s i • B.G, X.vk, m⟩ = .ok (X.honest s i)) ∧
    (∀ i ∈ X.ids, verifySignatureShare (Suite.ofBase B) i (s i • B.G) (X.honest s i)
        (X.pkg B) X.vk = .ok ()) ∧
    (∀ mode, aggregateCustom (Suite.ofBase B) (X.pkg B) (X.sharesMap (X.honest s)) pkp mode
        = .ok σ) ∧
    verifySignature (Suite.ofBase B) X.vk X.msg σ = .ok () := by
  intro s σ
  have hkey : (X.ids.map fun i => X.lam i * s i).sum • B.G = X.vk := by
    rw [lam_sum h.nodup cs hlen, hvk]
  refine ⟨fun i hi => honestS_one (X := X) ▸ sign_eq (okS_of_ok h) i hi s _ m hm,
    fun i hi => C05.own_session_accepts B X h s i hi,
    fun mode => aggregate_honest h s hkey pkp hpvk hvs hmin mode, ?_⟩
  exact hpvk ▸ C04.aggregate_ok_verifies _ _ _ _ _ _
    (aggregate_honest h s hkey pkp hpvk hvs hmin .Disabled)

/-- the signature survives its wire encoding: for the default encoding
    `enc R ‖ enc z`, decoding returns the same signature whenever the two primitive
    codecs round-trip -/
theorem signature_roundtrip (B : Base F E) (σ : Signature F E) (bytes : Bytes)
    (hser : B.defaultSerializeSignature σ = .ok bytes)
    (hG : ∃ g, B.encElem B.G = some g ∧ g.length = B.elemLen)
    (hEl : ∀ P b, B.encElem P = some b → b.length = B.elemLen ∧ B.decElem b = .ok P)
    (hSc : ∀ x, (B.encScalar x).length = B.scalarLen ∧ B.decScalar (B.encScalar x) = some x) :
    B.defaultDeserializeSignature bytes = .ok σ := by
  obtain ⟨g, hg, _⟩ := hG
  exact Wire.defaultSig_rt (okS := fun _ => True) (okE := fun _ => True)
    ⟨fun x => (hSc x).1, fun x _ => (hSc x).2, fun P b h => (hEl P b h).1,
      fun P b _ h => (hEl P b h).2⟩ g hg σ trivial trivial bytes hser

/-! Non-vacuity: a concrete session over ℚ (two signers `1, 2`, polynomial `3 + 4x`,
    nonces `d = 1, e = 2`) meets the algebraic hypotheses of the theorem:
    distinct identifiers and `t ≤ |S|`. -/
example : ([1, 2] : List ℚ).Nodup ∧ ([3, 4] : List ℚ).length ≤ ([1, 2] : List ℚ).length := by
  constructor
  · decide
  · decide

/-- **The multiscalar multiplication is correct** (`SignSession.Ok`'s field `msm`, the
    hypothesis `MsmSound`, is not an assumption about the algorithm): whenever
    `little_endian_serialize` is the fixed-length little-endian encoding of the scalar, the
    width-5 NAF digits reassemble the scalar (`nonAdjacentForm_spec`, by induction over the loop
    for every byte length) and the interleaved double-and-add with its 8-entry lookup tables
    returns `Σ sᵢ • Pᵢ`. -/
theorem msm_sound (le : F → Bytes) (hle : LeSound le) : MsmSound (E := E) le :=
  msmSound_of_leSound le hle

/-- **The encoding law holds for the encoder the reference suites run**: over `ZMod q`, for every
    prime `q ≤ 256^len` (the real scalar fields with 32 / 57 bytes among them),
    `fun s => natToLE s.val len` satisfies `LeSound`; so on those fields `MsmSound` — and with it
    the signing, batch and group-commitment theorems — has no hypothesis left about the
    multiscalar code. -/
theorem leSound_ref (q len : Nat) [Fact q.Prime] (hq : q ≤ 256 ^ len) :
    LeSound (F := ZMod q) (fun s => Frost.Ref.natToLE s.val len) :=
  leSound_natToLE q len hq

/-- `MsmSound` for the reference encoder: no hypothesis left about the multiscalar code -/
theorem msm_sound_ref (q len : Nat) [Fact q.Prime] (hq : q ≤ 256 ^ len)
    {E' : Type} [AddCommGroup E'] [Module (ZMod q) E'] [DecidableEq E'] :
    MsmSound (F := ZMod q) (E := E') (fun s => Frost.Ref.natToLE s.val len) :=
  msmSound_of_leSound _ (leSound_natToLE q len hq)

/-- the NAF digits of every byte string reassemble the number it denotes, are odd, lie in
    (-16, 16) and sit at distinct positions below the NAF length -/
theorem naf_value (le : Bytes) (ds : List (Nat × Int)) (h : nonAdjacentForm le 5 = some ds) :
    nafValue ds = (leNat le : Int) ∧ NafOk (8 * le.length + 1) ds := by
  obtain ⟨ds', h', hv⟩ := nonAdjacentForm_spec le
  rw [h'] at h
  cases h
  exact hv

/-- non-vacuity of the encoding law: one-byte little-endian scalars of `ZMod 3` -/
example : LeSound (F := ZMod 3) (fun s => [UInt8.ofNat s.val]) := by
  refine ⟨?_, fun _ _ => rfl⟩
  intro s
  have hlt : s.val < 3 := ZMod.val_lt s
  have : leNat [UInt8.ofNat s.val] = s.val := by
    simp [leNat, UInt8.toNat_ofNat']
    omega
  rw [this, ZMod.natCast_zmod_val]

end Frost.C01

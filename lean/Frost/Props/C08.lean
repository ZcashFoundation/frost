/-
  C08 — Key generation aborts and names the sender on any malformed peer contribution.
-/
import Frost.Proofs.Dkg

namespace Frost.C08
open Frost

variable {F E : Type} [Field F] [DecidableEq F] [AddCommGroup E] [Module F E] [DecidableEq E]

/-- **A proof of knowledge is accepted iff `R = μ•G − c•φ₀`** where `c` is the challenge
    of the *claimed* identifier, the *filed* constant-term commitment and `R`. -/
theorem pok_accept_iff (S : Suite F E) (id : F) (phi0 : E) (rest : List E) (pok : Signature F E)
    (c : F) (hc : dkgChallenge S id phi0 pok.R = .ok c) :
    verifyProofOfKnowledge S id (phi0 :: rest) pok = .ok () ↔ pok.R = pok.z • S.G - c • phi0 := by
  rw [verifyPok_eq S id phi0 rest pok.R pok.z c hc, Outcome.ite_eq_ok]

/-- an altered response `μ + δ` (`δ ≠ 0`) is rejected, naming the claimed sender -/
theorem pok_altered_response (S : Suite F E) (hG : S.G ≠ 0) (id a0 k δ : F) (rest : List E) (c : F)
    (hδ : δ ≠ 0) (hc : dkgChallenge S id (a0 • S.G) (k • S.G) = .ok c) :
    verifyProofOfKnowledge S id (a0 • S.G :: rest) ⟨k • S.G, k + a0 * c + δ⟩ =
      .error (.InvalidProofOfKnowledge id) := by
  rw [verifyPok_eq S id _ rest _ _ c hc, if_neg]
  -- the right-hand side is `(k + δ) • G`
  rw [smul_smul, ← sub_smul, smul_inj_of_ne_zero hG, mul_comm c, add_sub_right_comm,
    add_sub_cancel_right, left_eq_add]
  exact hδ

/-- a proof made for another identifier / another commitment / with another `R` is
    accepted iff the two `HDKG` values coincide: with the honest `(k•G, k + a₀c)` for
    challenge `c` checked under challenge `c'`, acceptance ⟺ `a₀ (c − c') = 0`. -/
theorem pok_replay_iff (S : Suite F E) (hG : S.G ≠ 0) (id' a0 k : F) (rest : List E) (c c' : F)
    (hc' : dkgChallenge S id' (a0 • S.G) (k • S.G) = .ok c') :
    verifyProofOfKnowledge S id' (a0 • S.G :: rest) ⟨k • S.G, k + a0 * c⟩ = .ok () ↔
      a0 * (c - c') = 0 := by
  rw [verifyPok_eq S id' _ rest _ _ c' hc', Outcome.ite_eq_ok]
  -- the right-hand side is `(k + a₀ (c − c')) • G`
  simp only [smul_smul, ← sub_smul, smul_inj_of_ne_zero hG, mul_comm c' a0, add_sub_assoc, ← mul_sub,
    left_eq_add]

/-- wrong number of round-one packages -/
theorem part2_count (S : Suite F E) (sp : Round1Secret F E) (r1 : List (F × Round1Package F E))
    (h0 : sp.maxSigners ≠ 0) (h : r1.length ≠ sp.maxSigners - 1) :
    dkgPart2 S sp r1 = .error .IncorrectNumberOfPackages := by
  unfold dkgPart2; simp [h0, h]

/-- a contribution filed under the receiver's own identifier -/
theorem part2_own_identifier (S : Suite F E) (sp : Round1Secret F E)
    (r1 : List (F × Round1Package F E)) (h0 : sp.maxSigners ≠ 0)
    (h : r1.length = sp.maxSigners - 1) (hown : sp.id ∈ SMap.keys r1) :
    dkgPart2 S sp r1 = .error .UnknownIdentifier := by
  unfold dkgPart2
  rw [if_neg h0, if_neg (not_not.mpr h), if_pos (SMap.contains_of_mem hown)]

/-- a commitment of the wrong length (any sender): `IncorrectNumberOfCommitments`
    (this variant carries no culprit field) -/
theorem part2_wrong_length (S : Suite F E) (sp : Round1Secret F E)
    (r1 : List (F × Round1Package F E)) (h0 : sp.maxSigners ≠ 0)
    (h : r1.length = sp.maxSigners - 1) (hown : sp.id ∉ SMap.keys r1)
    (ip : F × Round1Package F E) (hip : ip ∈ r1)
    (hbad : asU16 ip.2.commitment.length ≠ sp.minSigners) :
    dkgPart2 S sp r1 = .error .IncorrectNumberOfCommitments := by
  unfold dkgPart2
  rw [if_neg h0, if_neg (not_not.mpr h), if_neg (SMap.not_contains_of_not_mem hown),
    if_pos (List.any_eq_true.mpr ⟨ip, hip, decide_eq_true hbad⟩)]

/-- the per-sender loop of `part2` stops at the first invalid proof and names that sender -/
theorem part2Loop_culprit (S : Suite F E) (coeffs : List F) (hne : coeffs ≠ [])
    (pre post : List (F × Round1Package F E)) (ell : F) (pkg : Round1Package F E)
    (hpre : ∀ ip ∈ pre, verifyProofOfKnowledge S ip.1 ip.2.commitment ip.2.pok = .ok ())
    (hbad : verifyProofOfKnowledge S ell pkg.commitment pkg.pok =
      .error (.InvalidProofOfKnowledge ell)) :
    part2Loop S coeffs (pre ++ (ell, pkg) :: post) = .error (.InvalidProofOfKnowledge ell) := by
  obtain ⟨c0, cr, rfl⟩ := List.exists_cons_of_ne_nil hne
  induction pre with
  | nil => simp [part2Loop, hbad]
  | cons ip rest ih =>
    obtain ⟨l0, p0⟩ := ip
    have h0 : verifyProofOfKnowledge S l0 p0.commitment p0.pok = .ok () :=
      hpre (l0, p0) List.mem_cons_self
    rw [List.cons_append]
    unfold part2Loop
    simp only [h0, evaluatePolynomial_eq, ih fun ip hip => hpre ip (List.mem_cons_of_mem _ hip)]

/-- **invalid proof of knowledge from exactly one sender `ℓ`** ⇒
    `part2 = InvalidProofOfKnowledge { culprit: ℓ }` and no key material -/
theorem part2_invalid_pok (S : Suite F E) (sp : Round1Secret F E) (hcs : sp.coefficients ≠ [])
    (pre post : List (F × Round1Package F E)) (ell : F) (pkg : Round1Package F E)
    (h0 : sp.maxSigners ≠ 0)
    (h : (pre ++ (ell, pkg) :: post).length = sp.maxSigners - 1)
    (hown : sp.id ∉ SMap.keys (pre ++ (ell, pkg) :: post))
    (hlen : ∀ ip ∈ pre ++ (ell, pkg) :: post, asU16 ip.2.commitment.length = sp.minSigners)
    (hpre : ∀ ip ∈ pre, verifyProofOfKnowledge S ip.1 ip.2.commitment ip.2.pok = .ok ())
    (hbad : verifyProofOfKnowledge S ell pkg.commitment pkg.pok =
      .error (.InvalidProofOfKnowledge ell)) :
    dkgPart2 S sp (pre ++ (ell, pkg) :: post) = .error (.InvalidProofOfKnowledge ell) := by
  unfold dkgPart2
  rw [if_neg h0, if_neg (not_not.mpr h), if_neg (SMap.not_contains_of_not_mem hown),
    if_neg, part2Loop_culprit S _ hcs pre post ell pkg hpre hbad]
  rw [List.any_eq_true]
  rintro ⟨ip, hip, hne⟩
  exact of_decide_eq_true hne (hlen ip hip)

/-- **a round-two share that does not match the sender's filed commitment** (altered by
    `δ`, or computed for another recipient, or the commitment's non-constant coefficient
    was altered) ⇒ `part3 = InvalidSecretShare { culprit: Some(ℓ) }` for the first such
    sender `ℓ`, and no key material. -/
theorem part3_invalid_share (S : Suite F E) (sp : Round2Secret F E)
    (r1 : List (F × Round1Package F E)) (pre post : List (F × F)) (ell v : F) (C : List E)
    (h0 : sp.maxSigners ≠ 0) (h1 : r1.length = sp.maxSigners - 1)
    (hown1 : sp.id ∉ SMap.keys r1) (hown2 : sp.id ∉ SMap.keys (pre ++ (ell, v) :: post))
    (hlen : r1.length = (pre ++ (ell, v) :: post).length)
    (hsub : ∀ id ∈ SMap.keys r1, id ∈ SMap.keys (pre ++ (ell, v) :: post))
    (hpre : ∀ lv ∈ pre, ∃ C, SMap.get? (r1.map fun ip => (ip.1, ip.2.commitment)) lv.1 = some C ∧
      C ≠ [] ∧ lv.2 • S.G = vssR C sp.id)
    (hC : SMap.get? (r1.map fun ip => (ip.1, ip.2.commitment)) ell = some C)
    (hbad : v • S.G ≠ vssR C sp.id) :
    dkgPart3 S sp r1 (pre ++ (ell, v) :: post) = .error (.InvalidSecretShare (some ell)) := by
  unfold dkgPart3
  rw [if_neg h0, if_neg (not_not.mpr h1), if_neg (SMap.not_contains_of_not_mem hown1),
    if_neg (SMap.not_contains_of_not_mem hown2), if_neg (not_not.mpr hlen),
    if_neg fun hany => (SMap.any_not_contains _ _).mp hany hsub]
  simp only
  rw [part3Loop_culprit S sp.id _ pre post ell v C 0 hpre hC hbad]

/-- a share altered by `δ ≠ 0` does not match (`G ≠ 0`) -/
theorem altered_share_mismatch (S : Suite F E) (hG : S.G ≠ 0) (C : List E) (me v δ : F)
    (hv : v • S.G = vssR C me) (hδ : δ ≠ 0) : (v + δ) • S.G ≠ vssR C me := by
  rw [← hv, Ne, smul_inj_of_ne_zero hG, add_eq_left]
  exact hδ

/-- a share computed for another recipient `i'` matches iff `f_ℓ(i') = f_ℓ(i)` -/
theorem other_recipient_iff (S : Suite F E) (hG : S.G ≠ 0) (cs : List F) (me other : F) :
    hornerR cs other • S.G = vssR (cs.map fun c => c • S.G) me ↔ hornerR cs other = hornerR cs me := by
  rw [vssR_map_smul, smul_inj_of_ne_zero hG]

/-- contribution filed under the receiver's own identifier in `part3` (either map) -/
theorem part3_own_identifier (S : Suite F E) (sp : Round2Secret F E)
    (r1 : List (F × Round1Package F E)) (r2 : List (F × F)) (h0 : sp.maxSigners ≠ 0)
    (h1 : r1.length = sp.maxSigners - 1)
    (hown : sp.id ∈ SMap.keys r1 ∨ sp.id ∈ SMap.keys r2) :
    dkgPart3 S sp r1 r2 = .error .UnknownIdentifier := by
  unfold dkgPart3
  rw [if_neg h0, if_neg (not_not.mpr h1)]
  by_cases c1 : sp.id ∈ SMap.keys r1
  · rw [if_pos (SMap.contains_of_mem c1)]
  · rw [if_neg (SMap.not_contains_of_not_mem c1),
      if_pos (SMap.contains_of_mem (hown.resolve_left c1))]

/-- missing / surplus contributions in `part3` -/
theorem part3_count (S : Suite F E) (sp : Round2Secret F E)
    (r1 : List (F × Round1Package F E)) (r2 : List (F × F)) (h0 : sp.maxSigners ≠ 0)
    (h : r1.length ≠ sp.maxSigners - 1) :
    dkgPart3 S sp r1 r2 = .error .IncorrectNumberOfPackages := by
  unfold dkgPart3; simp [h0, h]

theorem part3_count2 (S : Suite F E) (sp : Round2Secret F E)
    (r1 : List (F × Round1Package F E)) (r2 : List (F × F)) (h0 : sp.maxSigners ≠ 0)
    (h1 : r1.length = sp.maxSigners - 1) (hown1 : sp.id ∉ SMap.keys r1)
    (hown2 : sp.id ∉ SMap.keys r2) (h : r1.length ≠ r2.length) :
    dkgPart3 S sp r1 r2 = .error .IncorrectNumberOfPackages := by
  unfold dkgPart3
  rw [if_neg h0, if_neg (not_not.mpr h1), if_neg (SMap.not_contains_of_not_mem hown1),
    if_neg (SMap.not_contains_of_not_mem hown2), if_pos h]

/-- a round-one sender without a round-two package: `IncorrectPackage` -/
theorem part3_incorrect_package (S : Suite F E) (sp : Round2Secret F E)
    (r1 : List (F × Round1Package F E)) (r2 : List (F × F)) (h0 : sp.maxSigners ≠ 0)
    (h1 : r1.length = sp.maxSigners - 1) (hown1 : sp.id ∉ SMap.keys r1)
    (hown2 : sp.id ∉ SMap.keys r2) (h : r1.length = r2.length)
    (id : F) (hid : id ∈ SMap.keys r1) (hmiss : id ∉ SMap.keys r2) :
    dkgPart3 S sp r1 r2 = .error .IncorrectPackage := by
  unfold dkgPart3
  rw [if_neg h0, if_neg (not_not.mpr h1), if_neg (SMap.not_contains_of_not_mem hown1),
    if_neg (SMap.not_contains_of_not_mem hown2), if_neg (not_not.mpr h),
    if_pos ((SMap.any_not_contains _ _).mpr fun hall => hmiss (hall id hid))]

/-! Non-vacuity: over ℚ with `G = 1`, the honest proof for `a₀ = 2, k = 3` and challenge `1`
    satisfies the acceptance equation, and altering the response breaks it. -/
example : (3 : ℚ) • (1 : ℚ) = (3 + 2 * 1) • (1 : ℚ) - (1 : ℚ) • ((2 : ℚ) • (1 : ℚ)) ∧
    (3 : ℚ) • (1 : ℚ) ≠ (3 + 2 * 1 + 5) • (1 : ℚ) - (1 : ℚ) • ((2 : ℚ) • (1 : ℚ)) := by
  norm_num

end Frost.C08

/-
  C14 — Untrusted bytes and untrusted protocol messages never cause a panic.

  In the model every Rust panic site of the modelled code is an explicit `.panic` outcome
  (`Outcome.NoPanic x` = `x` is a value or a library error).  Lemmas about the functions the entry
  points call: Frost.Proofs.Naf, Frost.Proofs.NoPanic.
-/
import Frost.Proofs.NoPanic
import Frost.Model.Resume
import Frost.Proofs.Steps

set_option linter.unusedSectionVars false

namespace Frost.C14
open Frost

variable {F E : Type}
variable [Add F] [Mul F] [Sub F] [Neg F] [Zero F] [One F] [Inv F] [DecidableEq F]
variable [Add E] [Sub E] [Neg E] [Zero E] [SMul F E] [DecidableEq E]

/-- **every limb read of `non_adjacent_form(5)` is inside the buffer**, for a scalar of any byte
    length `n` and every loop position, including windows that straddle two limbs -/
theorem naf_limbs_in_bounds (n pos : Nat) (h : pos < 8 * n + 1) :
    nafLimbCheck 5 ((8 * n + 1 + 63) / 64) pos = true := nafLimbCheck_true n pos h

/-- **the NAF of every byte string exists and all its digits lie in (-16, 16)** -/
theorem naf_total (le : Bytes) : ∃ ds, nonAdjacentForm le 5 = some ds ∧ DigitsOk ds := by
  obtain ⟨ds, h, _, hok⟩ := nonAdjacentForm_spec le
  exact ⟨ds, h, hok.digitsOk⟩

/-- **`vartime_multiscalar_mul` returns iff #scalars = #elements** (no out-of-bounds table or
    limb index for any scalars) -/
theorem msm_total (le : F → Bytes) (ss : List F) (es : List E) :
    (vartimeMultiscalarMul le ss es).isSome ↔ ss.length = es.length :=
  vartimeMultiscalarMul_isSome le ss es

variable (S : Suite F E) (H : HooksNoPanic S)
include H

/-- `round2::sign`: any signing package (empty, oversized, identity entries, …) -/
theorem sign_no_panic (pkg : SigningPackage F E) (nonces : SigningNonces F E) (kp : KeyPackage F E) :
    (sign S pkg nonces kp).NoPanic := sign_np H

/-- `aggregate` / `aggregate_custom`: any package, any share map, any public key package
    (threshold absent, 0, 65535, no verifying shares, …), every cheater-detection mode -/
theorem aggregate_no_panic (pkg : SigningPackage F E) (shares : List (F × F))
    (pkp : PublicKeyPackage F E) (mode : CheaterDetection) :
    (aggregateCustom S pkg shares pkp mode).NoPanic ∧ (aggregate S pkg shares pkp).NoPanic :=
  ⟨aggregateCustom_np H, aggregateCustom_np H⟩

theorem verify_share_no_panic (id : F) (Y : E) (z : F) (pkg : SigningPackage F E) (vk : E) :
    (verifySignatureShare S id Y z pkg vk).NoPanic := by
  unfold verifySignatureShare
  dsimp only
  split
  · exact NoPanic_error _
  np_bind computeBindingFactorList_np
  np_bind computeGroupCommitment_np
  np_bind H.challenge _ _ _
  exact verifySignatureSharePrecomputed_np H

theorem verify_no_panic (vk : E) (msg : Bytes) (sig : Signature F E) :
    (verifySignature S vk msg sig).NoPanic := verifySignature_np H

omit H

/-- a dealer's share with any commitment (empty, one entry, thousands of entries) -/
theorem dealer_share_no_panic (ss : SecretShare F E) : (KeyPackage.tryFrom S ss).NoPanic :=
  keyPackage_tryFrom_np

/-- commitment vectors of mutually inconsistent lengths -/
theorem sum_commitments_no_panic (cs : List (List E)) (m : List (F × List E)) :
    (sumCommitments cs : Outcome F (List E)).NoPanic ∧ (PublicKeyPackage.fromDkgCommitments m).NoPanic :=
  ⟨sumCommitments_np cs, fromDkgCommitments_np⟩

/-- `dkg::part2` on any round-one map; own secret package honest -/
theorem dkg_part2_no_panic (sp : Round1Secret F E) (hmax : sp.maxSigners ≠ 0)
    (hcs : sp.coefficients ≠ []) (r1 : List (F × Round1Package F E)) : (dkgPart2 S sp r1).NoPanic := by
  unfold dkgPart2
  rw [if_neg hmax]
  refine NoPanic_ite (NoPanic_error _) <| NoPanic_ite (NoPanic_error _) <|
    NoPanic_ite (NoPanic_error _) ?_
  np_bind part2Loop_np hcs r1
  np_bind evaluatePolynomial_np hcs
  exact NoPanic_ok _

/-- `dkg::part3` on any round-one and round-two maps -/
theorem dkg_part3_no_panic (sp : Round2Secret F E) (hmax : sp.maxSigners ≠ 0)
    (r1 : List (F × Round1Package F E)) (r2 : List (F × F)) : (dkgPart3 S sp r1 r2).NoPanic := by
  unfold dkgPart3
  rw [if_neg hmax]
  refine NoPanic_ite (NoPanic_error _) <| NoPanic_ite (NoPanic_error _) <|
    NoPanic_ite (NoPanic_error _) <| NoPanic_ite (NoPanic_error _) <|
    NoPanic_ite (NoPanic_error _) ?_
  dsimp only
  np_bind part3Loop_np r2 0
  np_bind fromDkgCommitments_np
  exact NoPanic_ok _

theorem refresh_share_no_panic (rs : SecretShare F E) (kp : KeyPackage F E) :
    (refreshShare S rs kp).NoPanic := by
  unfold refreshShare
  dsimp only
  np_bind keyPackage_tryFrom_np
  exact NoPanic_ite (NoPanic_error _) (NoPanic_ok _)

theorem refresh_dkg_part2_no_panic (sp : Round1Secret F E) (hmax : sp.maxSigners ≠ 0)
    (hcs : sp.coefficients ≠ []) (r1 : List (F × Round1Package F E)) :
    (refreshDkgPart2 sp r1).NoPanic := by
  unfold refreshDkgPart2
  rw [if_neg hmax]
  refine NoPanic_ite (NoPanic_error _) ?_
  np_bind refreshPart2Loop_np hcs r1
  np_bind evaluatePolynomial_np hcs
  exact NoPanic_ok _

theorem refresh_dkg_shares_no_panic (sp : Round2Secret F E) (hmax : sp.maxSigners ≠ 0)
    (r1 : List (F × Round1Package F E)) (r2 : List (F × F)) (pkp : PublicKeyPackage F E)
    (kp : KeyPackage F E) : (refreshDkgShares S sp r1 r2 pkp kp).NoPanic := by
  unfold refreshDkgShares
  refine NoPanic_ite (NoPanic_error _) ?_
  dsimp only
  rw [if_neg hmax]
  refine NoPanic_ite (NoPanic_error _) <| NoPanic_ite (NoPanic_error _) <|
    NoPanic_ite (NoPanic_error _) ?_
  np_bind part3Loop_np r2 0
  np_bind fromDkgCommitments_np
  np_bind addOldShares_np _ []
  exact NoPanic_ok _

/-- repair: an empty helper list cannot reach `helpers.len() - 1`; part 3 on any public key
    package and any sigmas -/
theorem repair_no_panic (kp : KeyPackage F E) (t : Tape) (p : F) (sigmas : List F) (id : F)
    (pkp : PublicKeyPackage F E) :
    (repairSharePart1 S [] kp t p).NoPanic ∧ (repairSharePart3 S sigmas id pkp).NoPanic := by
  constructor
  · unfold repairSharePart1
    refine NoPanic_ite (NoPanic_error _) ?_
    rw [if_pos (show (!([] : List F).contains kp.id) = true from rfl)]
    exact NoPanic_error _
  · unfold repairSharePart3
    dsimp only
    split
    · exact NoPanic_error _
    · exact NoPanic_ok _

theorem reconstruct_no_panic (kps : List (KeyPackage F E)) : (reconstruct S kps).NoPanic := by
  unfold reconstruct
  split
  · exact NoPanic_error _
  · exact NoPanic_ite (NoPanic_error _) (NoPanic_ite (NoPanic_error _) (reconstructLoop_np _ _))

/-- batch verification on any queued items -/
theorem batch_no_panic (items : List (BatchItem F E)) (t : Tape)
    (htape : (batchLoop S items ⟨0, [], [], [], []⟩ t).isSome) : (batchVerify S items t).NoPanic :=
  batchVerify_np S items t htape

theorem hooks_default (B : Base F E) : HooksNoPanic (Suite.ofBase B) :=
  ⟨fun _ _ _ => defaultChallenge_np, fun _ _ _ _ _ _ _ => shareVerify_np,
   fun _ => defaultSerializeSignature_np, fun _ => defaultDeserializeSignature_np⟩
theorem hooks_taproot (B : Base F E) (P : TrParams F E) : HooksNoPanic (Suite.taproot B P) :=
  Frost.hooks_taproot B P

/-- the Taproot entry points with any root and any peer material -/
theorem taproot_entry_points_no_panic (B : Base F E) (P : TrParams F E) (pkg : SigningPackage F E)
    (nonces : SigningNonces F E) (kp : KeyPackage F E) (shares : List (F × F))
    (pkp : PublicKeyPackage F E) (root : Option Bytes) :
    (signWithTweak B P pkg nonces kp root).NoPanic ∧ (aggregateWithTweak B P pkg shares pkp root).NoPanic :=
  ⟨sign_np (Frost.hooks_taproot B P), aggregateCustom_np (Frost.hooks_taproot B P)⟩

/-- **the re-randomized entry points**: a randomizer seed of ANY length (it is a byte string a
    coordinator sends), any signing package, any explicit randomizer, every cheater-detection
    mode; also the package-based randomizer of the deprecated coordinator API -/
theorem rerandomized_entry_points_no_panic (S : Suite F E) (H : HooksNoPanic S)
    (pkg : SigningPackage F E) (nonces : SigningNonces F E) (kp : KeyPackage F E) (seed : Bytes)
    (r : F) (shares : List (F × F)) (pkp : PublicKeyPackage F E) (mode : CheaterDetection)
    (p : RandomizedParams F E) (hdr : Bytes) :
    (randomizerRegenerate S seed pkg.commitments).NoPanic ∧
    (signWithRandomizerSeed S pkg nonces kp seed).NoPanic ∧
    (signWithRandomizer S pkg nonces kp r).NoPanic ∧
    (aggregateRandomized S pkg shares pkp mode p).NoPanic ∧
    (randomizerFromScalarAndPackage S hdr r pkg).NoPanic :=
  ⟨randomizerRegenerate_np, signWithRandomizerSeed_np H, sign_np H, aggregateCustom_np H,
   randomizerFromScalarAndPackage_np⟩

theorem restore_np {α : Type} {d : Wire.Dec α} {b : Bytes} : (Resume.restore d b : Outcome F α).NoPanic := by
  unfold Resume.restore
  split
  · exact NoPanic_ok _
  · exact NoPanic_error _

/-- the wire decoders are total functions into `Option`: for every byte string a decoder
    returns a value or `none` (= `DeserializationError`); so does restoring stored state -/
theorem decoders_total (hdr b : Bytes) :
    ((Wire.deserialize (Wire.decKeyPackage S hdr) b).isSome ∨ Wire.deserialize (Wire.decKeyPackage S hdr) b = none) ∧
    (Resume.restore (Wire.decKeyPackage S hdr) b : Outcome F _).NoPanic :=
  ⟨by cases Wire.deserialize (Wire.decKeyPackage S hdr) b <;> simp, restore_np⟩

/-- steps continued from stored bytes: arbitrary bytes in place of the stored state never panic -/
theorem resumed_steps_no_panic (H : HooksNoPanic S) (hdr nb kb : Bytes) (pkg : SigningPackage F E)
    (ssB : Bytes) :
    (Resume.sign S hdr nb kb pkg).NoPanic ∧ (Resume.keyPackage S hdr ssB).NoPanic := by
  constructor
  · unfold Resume.sign
    np_bind restore_np
    np_bind restore_np
    exact sign_np H
  · unfold Resume.keyPackage
    np_bind restore_np
    exact keyPackage_tryFrom_np

/-- the hypotheses of `dkg_part2_no_panic` on the caller's own state hold for what `part1`
    returns -/
theorem part1_state_honest (id : F) (n t : Nat) (tape : Tape) (sp : Round1Secret F E)
    (pkg : Round1Package F E) (t' : Tape) (h : dkgPart1 S id n t tape = .ok ((sp, pkg), t')) :
    sp.maxSigners ≠ 0 ∧ sp.coefficients ≠ [] := by
  obtain ⟨secret, t1, coeffs, t2, pok, h2, hn, _, _, _, _, hout⟩ := dkgPart1_ok h
  cases hout
  exact ⟨by show n ≠ 0; omega, List.cons_ne_nil _ _⟩

end Frost.C14

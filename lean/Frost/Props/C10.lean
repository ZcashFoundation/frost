/-
  C10 — Refreshing shares keeps the group key, re-links all packages, retires old shares.

  The model of `refresh_share` is the repaired one (the verifying share is derived from
  the new signing share; see KNOWN_FINDINGS.txt, D-1).
-/
import Frost.Proofs.Honest
import Frost.Proofs.RefreshDkg

set_option linter.unusedSectionVars false

namespace Frost.C10
open Frost Frost.SignSession

variable {F E : Type} [Field F] [DecidableEq F] [AddCommGroup E] [Module F E] [DecidableEq E]

/-- **Dealer refresh at a participant**: for the refreshing polynomial `r = 0 + r₁x + …`
    (commitment published without its identity entry) of the right length, `refresh_share`
    returns the same identifier, threshold and group key, the new share `s + r(i)` and the
    verifying share `G·(s + r(i))`. -/
theorem refreshShare_ok (S : Suite F E) (kp : KeyPackage F E) (rc : List F)
    (hlen : asU16 (rc.length + 1) = kp.minSigners) :
    refreshShare S ⟨kp.id, hornerR (0 :: rc) kp.id, rc.map fun c => c • S.G⟩ kp =
      .ok { id := kp.id, share := hornerR (0 :: rc) kp.id + kp.share,
            vshare := (hornerR (0 :: rc) kp.id + kp.share) • S.G,
            vk := kp.vk, minSigners := kp.minSigners } := by
  rw [refreshShare_eq, if_pos (vssR_zero_cons_map_smul _ _ _).symm, List.length_map,
    if_neg (not_not.2 hlen)]

/-- a refreshing share made for another threshold is rejected -/
theorem refreshShare_rejects_threshold_change (S : Suite F E) (kp : KeyPackage F E) (rc : List F)
    (id : F) (hlen : asU16 (rc.length + 1) ≠ kp.minSigners) :
    refreshShare S ⟨id, hornerR (0 :: rc) id, rc.map fun c => c • S.G⟩ kp =
      .error .InvalidMinSigners := by
  rw [refreshShare_eq, if_pos (vssR_zero_cons_map_smul _ _ _).symm, List.length_map, if_pos hlen]

/-- a refreshing contribution whose constant term is `a ≠ 0` is rejected: the re-inserted
    identity entry makes the two sides of the VSS equation differ by `a • G` -/
theorem refreshShare_rejects_nonzero_constant (S : Suite F E) (hG : S.G ≠ 0) (kp : KeyPackage F E)
    (a : F) (ha : a ≠ 0) (rc : List F) (id : F) :
    refreshShare S ⟨id, hornerR (a :: rc) id, rc.map fun c => c • S.G⟩ kp =
      .error (.InvalidSecretShare none) := by
  rw [refreshShare_eq, if_neg]
  rw [vssR_zero_cons_map_smul, hornerR_cons, hornerR_cons, zero_add, add_smul, add_eq_right]
  exact smul_ne_zero ha hG

/-- the dealer refuses to refresh for an identifier that is not in the public key package -/
theorem computeRefreshingShares_unknown (S : Suite F E) (pkp : PublicKeyPackage F E)
    (ids : List F) (t : Tape) (m : Nat) (hm : pkp.minSigners = some m)
    (hv : (validateNumOfSigners m (asU16 ids.length) : Outcome F Unit) = .ok ())
    (id : F) (hid : id ∈ ids) (hunk : id ∉ SMap.keys pkp.vshares) :
    computeRefreshingShares S pkp ids t = .error .UnknownIdentifier := by
  unfold computeRefreshingShares
  simp only [hm, hv]
  rw [if_pos ((SMap.any_not_contains _ _).mpr fun hall => hunk (hall id hid))]

/-- … and without a recorded threshold -/
theorem computeRefreshingShares_no_min (S : Suite F E) (pkp : PublicKeyPackage F E)
    (ids : List F) (t : Tape) (hm : pkp.minSigners = none) :
    computeRefreshingShares S pkp ids t = .error .InvalidMinSigners := by
  unfold computeRefreshingShares; simp [hm]

/-- the distributed variant refuses a threshold change as its first guard -/
theorem refreshDkgShares_rejects_threshold_change (S : Suite F E) (sp : Round2Secret F E)
    (r1 : List (F × Round1Package F E)) (r2 : List (F × F)) (oldPkp : PublicKeyPackage F E)
    (oldKp : KeyPackage F E) (h : sp.minSigners ≠ oldKp.minSigners) :
    refreshDkgShares S sp r1 r2 oldPkp oldKp = .error .InvalidMinSigners := by
  unfold refreshDkgShares; simp [h]

/-- **The distributed procedure re-links the packages too**: every successful
    `refresh_dkg_shares` (arbitrary contents of the sender slots, as in C09) on a round-one map
    with distinct senders other than the participant, commitments of the participant's own
    length, honest own refresh state and consistent OLD key material returns a key package with
    the same identifier and threshold, `verifying_share = signing_share • G` = its entry in the
    refreshed public key package, and the OLD group key in both packages; the new signing share
    is the old one plus the own and the received refreshing shares. -/
theorem refreshDkgShares_ok_consistent (S : Suite F E) (sp : Round2Secret F E)
    (r1 : List (F × Round1Package F E)) (r2 : List (F × F)) (oldPkp : PublicKeyPackage F E)
    (oldKp : KeyPackage F E) (kp : KeyPackage F E) (pkp : PublicKeyPackage F E)
    (h : refreshDkgShares S sp r1 r2 oldPkp oldKp = .ok (kp, pkp))
    (hk1 : (SMap.keys r1).Nodup) (hself : sp.id ∉ SMap.keys r1)
    (hlen : ∀ ip ∈ r1, ip.2.commitment.length = sp.commitment.length)
    (hown : sp.secretShare • S.G = vssR ((0 : E) :: sp.commitment) sp.id)
    (hold : SMap.get? oldPkp.vshares sp.id = some (oldKp.share • S.G)) :
    kp.id = sp.id ∧ kp.vshare = kp.share • S.G ∧ kp.vk = oldPkp.vk ∧ pkp.vk = oldPkp.vk ∧
    kp.minSigners = oldKp.minSigners ∧ pkp.minSigners = some oldKp.minSigners ∧
    kp.share = ((r2.map (·.2)).sum + sp.secretShare) + oldKp.share ∧
    SMap.get? pkp.vshares sp.id = some kp.vshare :=
  Frost.refreshDkgShares_ok_consistent S sp r1 r2 oldPkp oldKp kp pkp h hk1 hself hlen hown hold

/-- **The honest distributed refresh succeeds and re-links every package** (see
    `Frost.refreshDkgShares_honest`): with `r_ℓ(x) = x·(rc ℓ)(x)` the zero-constant polynomial of
    participant `ℓ` and `R = r_me + Σ_ℓ r_ℓ`, `refresh_dkg_shares` returns the signing share
    `sold me + R(me)`, the verifying share `(sold i + R(i))•G` for EVERY participant `i`, the old
    group key and the same threshold.  These are the hypotheses of `refreshed_can_sign` (with the
    single refresh polynomial `R`), so any `t` refreshed participants sign; and
    `refresh_preserves_sharing` says the secret is the old one. -/
theorem refreshDkgShares_honest (S : Suite F E) (me : F) (rc : F → List F) (sold : F → F)
    (t n : Nat) (ht : 0 < t) (hrc : ∀ l, (rc l).length + 1 = t)
    (r1 : List (F × Round1Package F E)) (h0 : n ≠ 0) (hlen : r1.length = n - 1)
    (hown : me ∉ SMap.keys r1) (hnd : (SMap.keys r1).Nodup)
    (hcm : ∀ ip ∈ r1, ip.2.commitment = (rc ip.1).map fun c => c • S.G)
    (oldPkp : PublicKeyPackage F E) (oldKp : KeyPackage F E)
    (hmin : oldKp.minSigners = t) (hshare : oldKp.share = sold me)
    (hold : ∀ id ∈ me :: SMap.keys r1, SMap.get? oldPkp.vshares id = some (sold id • S.G)) :
    let Rtot := fun x => hornerR (0 :: rc me) x +
      ((SMap.keys r1).map fun l => hornerR (0 :: rc l) x).sum
    ∃ kp pkp,
      refreshDkgShares S ⟨me, (rc me).map fun c => c • S.G, hornerR (0 :: rc me) me, t, n⟩ r1
        (r1.map fun ip => (ip.1, hornerR (0 :: rc ip.1) me)) oldPkp oldKp = .ok (kp, pkp) ∧
      kp = ⟨me, sold me + Rtot me, (sold me + Rtot me) • S.G, oldPkp.vk, t⟩ ∧
      pkp.vk = oldPkp.vk ∧ pkp.minSigners = some t ∧
      ∀ id ∈ me :: SMap.keys r1, SMap.get? pkp.vshares id = some ((sold id + Rtot id) • S.G) :=
  Frost.refreshDkgShares_honest S me rc sold t n ht hrc r1 h0 hlen hown hnd hcm oldPkp oldKp
    hmin hshare hold

/-- **Any sequence of refreshes preserves the sharing**: after refreshes with zero-constant
    polynomials `r₁, r₂, …` (each with fewer than `|S|` non-constant coefficients), any
    signer set `S` of distinct identifiers with `|f| ≤ |S|` still interpolates to the
    *same* secret `f(0)` from the refreshed shares `f(i) + Σ_k r_k(i)`. -/
theorem refresh_preserves_sharing (ids : List F) (hnd : ids.Nodup) (f : List F)
    (hf : f.length ≤ ids.length) (rs : List (List F))
    (hrs : ∀ rc ∈ rs, rc.length + 1 ≤ ids.length) :
    (ids.map fun i => lagBasis ids 0 i *
        (hornerR f i + (rs.map fun rc => hornerR (0 :: rc) i).sum)).sum = hornerR f 0 := by
  induction rs with
  | nil => simpa using lagrange_interp_list ids hnd f hf 0
  | cons rc rest ih =>
    -- interpolation is additive, and a zero-constant polynomial interpolates to 0 at 0
    have h1 := ih fun r hr => hrs r (List.mem_cons_of_mem _ hr)
    have h2 := lagrange_interp_list ids hnd (0 :: rc) (hrs rc List.mem_cons_self) 0
    simp only [mul_add, List.sum_map_add, List.map_cons, List.sum_cons] at h1 ⊢
    rw [h2, hornerR_cons, zero_mul, add_zero, zero_add, h1]

/-- … hence any `t` refreshed participants sign: the aggregate of their honest signature
    shares is released (and valid, C04) in every detection mode. -/
theorem refreshed_can_sign (B : Base F E) (X : SignSession F E) (h : X.Ok B) (hG : B.G ≠ 0)
    (hcof : B.cofactor ≠ 0) (f : List F) (hf : f.length ≤ X.ids.length) (rs : List (List F))
    (hrs : ∀ rc ∈ rs, rc.length + 1 ≤ X.ids.length) (hvk : X.vk = hornerR f 0 • B.G)
    (pkp : PublicKeyPackage F E) (hpvk : pkp.vk = X.vk)
    (hvs : ∀ i ∈ X.ids, SMap.get? pkp.vshares i =
      some ((hornerR f i + (rs.map fun rc => hornerR (0 :: rc) i).sum) • B.G))
    (hmin : ∀ m, pkp.minSigners = some m → m ≤ X.ids.length) (mode : CheaterDetection) :
    ∃ σ, aggregateCustom (Suite.ofBase B) (X.pkg B)
      (X.sharesMap (X.honest fun i => hornerR f i + (rs.map fun rc => hornerR (0 :: rc) i).sum))
      pkp mode = .ok σ := by
  rw [aggregate_ok_iff_interp h hG hcof _ (hornerR f 0) hvk pkp hpvk hvs hmin mode]
  have := refresh_preserves_sharing X.ids h.nodup f hf rs hrs
  unfold lam
  rw [this, sub_self, mul_zero]

/-- **End to end, distributed procedure**: after an honest distributed refresh of a sharing
    `f` of the group key (participant `i` held `f(i)`, the old public key package listed
    `f(i)•G`), the public key package returned by `refresh_dkg_shares` makes ANY signer set of at
    least `t` refreshed participants succeed — the aggregate of their honest shares (computed
    from the refreshed signing shares `f(i) + R(i)`) is released in every detection mode, under
    the OLD group key. -/
theorem distributed_refresh_can_sign (B : Base F E) (X : SignSession F E) (h : X.Ok B)
    (hG : B.G ≠ 0) (hcof : B.cofactor ≠ 0) (f : List F) (me : F) (rc : F → List F) (t n : Nat)
    (ht : 0 < t) (hrc : ∀ l, (rc l).length + 1 = t) (hft : f.length ≤ X.ids.length)
    (htl : t ≤ X.ids.length)
    (r1 : List (F × Round1Package F E)) (h0 : n ≠ 0) (hlen : r1.length = n - 1)
    (hown : me ∉ SMap.keys r1) (hnd : (SMap.keys r1).Nodup)
    (hcm : ∀ ip ∈ r1, ip.2.commitment = (rc ip.1).map fun c => c • B.G)
    (oldPkp : PublicKeyPackage F E) (oldKp : KeyPackage F E)
    (hmin : oldKp.minSigners = t) (hshare : oldKp.share = hornerR f me)
    (hold : ∀ id ∈ me :: SMap.keys r1, SMap.get? oldPkp.vshares id = some (hornerR f id • B.G))
    (hvk : X.vk = hornerR f 0 • B.G) (hovk : oldPkp.vk = X.vk)
    (hsub : ∀ i ∈ X.ids, i ∈ me :: SMap.keys r1) (mode : CheaterDetection) :
    ∃ kp pkp σ,
      refreshDkgShares (Suite.ofBase B)
        ⟨me, (rc me).map fun c => c • B.G, hornerR (0 :: rc me) me, t, n⟩ r1
        (r1.map fun ip => (ip.1, hornerR (0 :: rc ip.1) me)) oldPkp oldKp = .ok (kp, pkp) ∧
      aggregateCustom (Suite.ofBase B) (X.pkg B)
        (X.sharesMap (X.honest fun i => hornerR f i +
          ((rc me :: (SMap.keys r1).map rc).map fun c => hornerR (0 :: c) i).sum))
        pkp mode = .ok σ := by
  obtain ⟨kp, pkp, hrun, _, hpvk, hpmin, hvs⟩ :=
    Frost.refreshDkgShares_honest (Suite.ofBase B) me rc (fun i => hornerR f i) t n ht hrc r1 h0
      hlen hown hnd hcm oldPkp oldKp hmin hshare hold
  have hrc' : ∀ l, (rc l).length + 1 ≤ X.ids.length := fun l => (hrc l).trans_le htl
  have hrs : ∀ c ∈ rc me :: (SMap.keys r1).map rc, c.length + 1 ≤ X.ids.length :=
    List.forall_mem_cons.mpr ⟨hrc' me, List.forall_mem_map.mpr fun l _ => hrc' l⟩
  obtain ⟨σ, hσ⟩ := refreshed_can_sign B X h hG hcof f hft (rc me :: (SMap.keys r1).map rc) hrs hvk
    pkp (by rw [hpvk, hovk]) (by
      intro i hi
      rw [hvs i (hsub i hi)]
      simp only [List.map_cons, List.sum_cons, List.map_map, Function.comp_def]
      rfl)
    (by intro m hm; rw [hpmin] at hm; cases hm; exact htl) mode
  exact ⟨kp, pkp, σ, hrun, hσ⟩

/-- **Mixing pre-refresh and post-refresh shares fails** except on a coincidence: signers in
    `new` use `f(i) + r(i)`, the others still use `f(i)` (or are removed participants, who
    only have `f(i)`); the aggregate is released iff `c · Σ_{i ∈ new} λᵢ r(i) = 0`. -/
theorem mixed_fails_iff (B : Base F E) (X : SignSession F E) (h : X.Ok B) (hG : B.G ≠ 0)
    (hcof : B.cofactor ≠ 0) (f : List F) (hf : f.length ≤ X.ids.length) (rc : List F)
    (isNew : F → Bool) (hvk : X.vk = hornerR f 0 • B.G)
    (pkp : PublicKeyPackage F E) (hpvk : pkp.vk = X.vk)
    (hvs : ∀ i ∈ X.ids, SMap.get? pkp.vshares i =
      some ((hornerR f i + if isNew i then hornerR (0 :: rc) i else 0) • B.G))
    (hmin : ∀ m, pkp.minSigners = some m → m ≤ X.ids.length) (mode : CheaterDetection) :
    (∃ σ, aggregateCustom (Suite.ofBase B) (X.pkg B)
      (X.sharesMap (X.honest fun i => hornerR f i + if isNew i then hornerR (0 :: rc) i else 0))
      pkp mode = .ok σ) ↔
      X.c * (X.ids.map fun i => X.lam i * (if isNew i then hornerR (0 :: rc) i else 0)).sum = 0 := by
  rw [aggregate_ok_iff_interp h hG hcof _ (hornerR f 0) hvk pkp hpvk hvs hmin mode]
  simp only [mul_add, List.sum_map_add, lam_sum h.nodup f hf, add_sub_cancel_left]

/-! Non-vacuity: over ℚ, identifiers `1, 2`, `f = 5 + 7x`, one refresh `r = 3x`. -/
example : ([1, 2] : List ℚ).Nodup ∧ ([5, 7] : List ℚ).length ≤ 2 ∧
    ∀ rc ∈ ([[3]] : List (List ℚ)), rc.length + 1 ≤ 2 := by
  refine ⟨by decide, by decide, ?_⟩
  intro rc hrc
  simp at hrc
  subst hrc
  decide

end Frost.C10

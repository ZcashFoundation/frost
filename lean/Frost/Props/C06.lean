/-
  C06 — Dealer key generation yields consistent, verifiable shares of the given key.
-/
import Frost.Props.C03

set_option linter.unusedSectionVars false

namespace Frost.C06
open Frost

variable {F E : Type} [Field F] [DecidableEq F] [AddCommGroup E] [Module F E] [DecidableEq E]

theorem validate_exact (mn mx : Nat) :
    (validateNumOfSigners mn mx : Outcome F Unit) =
      if mn < 2 then .error .InvalidMinSigners
      else if mx < 2 then .error .InvalidMaxSigners
      else if mn > mx then .error .InvalidMinSigners
      else .ok () := rfl

theorem validate_ok (mn mx : Nat) (h1 : 2 ≤ mn) (h2 : mn ≤ mx) :
    (validateNumOfSigners mn mx : Outcome F Unit) = .ok () :=
  validateNumOfSigners_eq_ok.2 ⟨h1, h2⟩

/-- **`SecretShare::verify` accepts exactly the shares on the committed polynomial**:
    `s • G = Σ_k i^k • C_k` (and the commitment is non-empty). -/
theorem verify_iff (S : Suite F E) (id s : F) (C : List E) :
    (∃ r, SecretShare.verify S ⟨id, s, C⟩ = .ok r) ↔ (s • S.G = vssR C id ∧ C ≠ []) := by
  constructor
  · rintro ⟨r, h⟩
    by_cases he : s • S.G = vssR C id
    · refine ⟨he, ?_⟩
      rintro rfl
      rw [SecretShare.verify_eq, if_pos he] at h
      cases h
    · rw [SecretShare.verify_of_ne S id s C he] at h
      cases h
  · rintro ⟨he, hC⟩
    cases C with
    | nil => exact absurd rfl hC
    | cons c r => exact ⟨_, by rw [SecretShare.verify_eq, if_pos he]; rfl⟩

/-- an honest share verifies and yields the expected verifying share and group key -/
theorem verify_ok (S : Suite F E) (id : F) (cs : List F) (hne : cs ≠ []) :
    SecretShare.verify S ⟨id, hornerR cs id, cs.map fun c => c • S.G⟩ =
      .ok (hornerR cs id • S.G, hornerR cs 0 • S.G) := by
  unfold SecretShare.verify
  simp only [evaluateVss_eq, vssR_map_smul, ne_eq, not_true_eq_false, if_false]
  cases cs with
  | nil => exact absurd rfl hne
  | cons c r => simp

/-- `KeyPackage::try_from` of an honest share: verifying share `= G·share`, the group key,
    and the recorded threshold `t` (the number of commitments). -/
theorem tryFrom_ok (S : Suite F E) (id : F) (cs : List F) (hne : cs ≠ []) (ht : cs.length < 65536) :
    KeyPackage.tryFrom S ⟨id, hornerR cs id, cs.map fun c => c • S.G⟩ =
      .ok ⟨id, hornerR cs id, hornerR cs id • S.G, hornerR cs 0 • S.G, cs.length⟩ := by
  unfold KeyPackage.tryFrom
  rw [verify_ok S id cs hne]
  simp [asU16, Nat.mod_eq_of_lt ht]

/-- the loop of `generate_secret_shares` never fails on a non-empty polynomial -/
theorem mapO_mkSecretShare (c0 : F) (cs : List F) (cm : List E) (l : List F) :
    mapO (mkSecretShare (c0 :: cs) cm) l =
      (.ok (l.map fun id => ⟨id, hornerR (c0 :: cs) id, cm⟩) : Outcome F (List (SecretShare F E))) := by
  induction l with
  | nil => rfl
  | cons a r ih =>
    unfold mapO
    rw [ih]
    simp [mkSecretShare, evaluatePolynomial_eq]

theorem generateSecretShares_eq (S : Suite F E) (key : F) (n t : Nat) (coeffs ids : List F)
    (h1 : 2 ≤ t) (h2 : t ≤ n) (hcl : coeffs.length = t - 1) :
    generateSecretShares S key n t coeffs ids =
      if ids.Nodup then
        .ok (ids.map fun id =>
          ⟨id, hornerR (key :: coeffs) id, (key :: coeffs).map fun c => c • S.G⟩)
      else .error .DuplicatedIdentifier := by
  unfold generateSecretShares generateSecretPolynomial
  rw [validate_ok t n h1 h2]
  simp only [hcl, ne_eq, not_true_eq_false, if_false, SMap.length_setOfList_eq_iff, ite_not,
    mapO_mkSecretShare]

/-- **`split` succeeds on valid parameters and its output is the sharing of `key`** by the
    polynomial `f = key + c₁x + … + c_{t−1}x^{t−1}` whose non-constant coefficients are the
    `t−1` successive `Field::random` draws: every participant's entry is `(i, f(i), commitment)`,
    the public key package maps `i ↦ f(i)•G`, carries `key•G` and the threshold `t`. -/
theorem split_ok (S : Suite F E) (key : F) (n t : Nat) (ids : List F) (tape tape' : Tape)
    (coeffs : List F) (h1 : 2 ≤ t) (h2 : t ≤ n) (hlen : ids.length = n) (hnd : ids.Nodup)
    (hgen : generateCoefficients S (t - 1) tape = some (coeffs, tape')) :
    ∃ byId pkp, split S key n t (some ids) tape = .ok ((byId, pkp), tape') ∧
      pkp.vk = key • S.G ∧ pkp.minSigners = some t ∧
      (SMap.keys byId).Perm ids ∧ (SMap.keys pkp.vshares).Perm ids ∧
      (key :: coeffs).length = t ∧
      ∀ i ∈ ids,
        SMap.get? byId i = some ⟨i, hornerR (key :: coeffs) i, (key :: coeffs).map fun c => c • S.G⟩ ∧
        SMap.get? pkp.vshares i = some (hornerR (key :: coeffs) i • S.G) := by
  have hcl : coeffs.length = t - 1 := generateCoefficients_length hgen
  have hl : wrongIdentifierCount (some ids) n = false := by simp [wrongIdentifierCount, hlen]
  unfold split
  rw [validate_ok t n h1 h2]
  simp only [hl, Bool.false_eq_true, if_false, hgen, identifierList,
    generateSecretShares_eq S key n t coeffs ids h1 h2 hcl, if_pos hnd, List.map_map,
    Function.comp_def]
  -- both maps are collected from the graph of a function over the distinct `ids`
  have hkc : (key :: coeffs).length = t := by
    rw [List.length_cons, hcl, Nat.sub_add_cancel (Nat.le_of_succ_le h1)]
  refine ⟨_, _, rfl, rfl, rfl, ?_, ?_, hkc, fun i hi => ⟨?_, ?_⟩⟩
  · simpa using SMap.keys_ofList_perm S.idLt (ids.map fun x => (x, _)) (by rwa [SMap.keys_graph])
  · simpa using SMap.keys_ofList_perm S.idLt (ids.map fun x => (x, _)) (by rwa [SMap.keys_graph])
  · rw [SMap.get?_ofList _ _ (by rwa [SMap.keys_graph]), SMap.get?_graph _ _ _ hi]
  · rw [SMap.get?_ofList _ _ (by rwa [SMap.keys_graph]), SMap.get?_graph _ _ _ hi]

/-- **any `t` (or more) of the key packages reconstruct the key that was split** -/
theorem reconstruct_key (S : Suite F E) (cs : List F) (ids : List F) (hnd : ids.Nodup)
    (hne : ids ≠ []) (hlen : cs.length ≤ ids.length) (vk : E) (Y : F → E) :
    reconstruct S (ids.map fun i => ⟨i, hornerR cs i, Y i, vk, cs.length⟩) = .ok (hornerR cs 0) := by
  have hmapid : (ids.map fun i => (⟨i, hornerR cs i, Y i, vk, cs.length⟩ : KeyPackage F E)).map
      (·.id) = ids := by simp [Function.comp_def]
  obtain ⟨a, ha⟩ := List.exists_mem_of_ne_nil ids hne
  rw [C03.reconstruct_eq S _ (mt List.map_eq_nil_iff.mp hne) (by rw [hmapid]; exact hnd)
    ⟨_, List.mem_map.mpr ⟨a, ha, rfl⟩, by rwa [List.length_map]⟩]
  rw [hmapid]
  simp only [List.map_map, Function.comp_def]
  -- interpolation over the set built by the code (a permutation of `ids`)
  have hperm := SMap.setOfList_perm S.idLt hnd
  rw [← lagrange_interp_list _ (SMap.nodup_setOfList S.idLt ids) cs (hperm.length_eq ▸ hlen) 0]
  exact congrArg Outcome.ok
    (hperm.symm.map fun i => lagBasis (SMap.setOfList S.idLt ids) 0 i * hornerR cs i).sum_eq

/-- **Tampering with the secret value** by `δ` is rejected unless `δ•G = 0` (i.e. `δ = 0`). -/
theorem tamper_value (S : Suite F E) (hG : S.G ≠ 0) (id : F) (cs : List F) (δ : F) (hδ : δ ≠ 0) :
    SecretShare.verify S ⟨id, hornerR cs id + δ, cs.map fun c => c • S.G⟩ =
      .error (.InvalidSecretShare none) := by
  refine SecretShare.verify_of_ne S _ _ _ fun h => hδ ?_
  rw [vssR_map_smul, smul_inj_of_ne_zero hG] at h
  exact add_eq_left.mp h

/-- **Tampering with one commitment coefficient**: replacing the `k`-th entry `C_k` by
    `C_k + Δ` makes verification fail whenever `i^k • Δ ≠ 0` (for a non-zero identifier and
    `Δ ≠ 0` always). -/
theorem tamper_coefficient (S : Suite F E) (id s : F) (pre post : List E) (Ck Δ : E)
    (hok : s • S.G = vssR (pre ++ Ck :: post) id) (hΔ : id ^ pre.length • Δ ≠ 0) :
    SecretShare.verify S ⟨id, s, pre ++ (Ck + Δ) :: post⟩ = .error (.InvalidSecretShare none) := by
  refine SecretShare.verify_of_ne S _ _ _ fun h => hΔ ?_
  -- split both evaluations at position `|pre|`: they differ exactly by `id^|pre| • Δ`
  simpa only [hok, vssR_append, vssR_cons, smul_add, add_assoc, add_right_inj, right_eq_add] using h

/-- **Appending an entry `X`** to the commitment is rejected whenever `i^t • X ≠ 0`. -/
theorem tamper_extend (S : Suite F E) (id s : F) (C : List E) (X : E)
    (hok : s • S.G = vssR C id) (hX : id ^ C.length • X ≠ 0) :
    SecretShare.verify S ⟨id, s, C ++ [X]⟩ = .error (.InvalidSecretShare none) := by
  refine SecretShare.verify_of_ne S _ _ _ fun h => hX ?_
  rw [vssR_append_singleton, hok] at h
  exact left_eq_add.mp h

/-- **Truncating** the last entry `C_{t−1}` is accepted iff `i^{t−1} • C_{t−1} = 0`. -/
theorem tamper_truncate_iff (S : Suite F E) (id s : F) (C : List E) (last : E) (hC : C ≠ [])
    (hok : s • S.G = vssR (C ++ [last]) id) :
    (∃ r, SecretShare.verify S ⟨id, s, C⟩ = .ok r) ↔ id ^ C.length • last = 0 := by
  simp only [verify_iff, hok, vssR_append_singleton, add_eq_left, and_iff_left hC]

/-- **Changing the identifier** to `i'` is accepted iff `f(i') = f(i)` (for `G ≠ 0`). -/
theorem tamper_identifier_iff (S : Suite F E) (hG : S.G ≠ 0) (i i' : F) (cs : List F)
    (hne : cs ≠ []) :
    (∃ r, SecretShare.verify S ⟨i', hornerR cs i, cs.map fun c => c • S.G⟩ = .ok r) ↔
      hornerR cs i' = hornerR cs i := by
  rw [verify_iff, vssR_map_smul, smul_inj_of_ne_zero hG, and_iff_left (mt List.map_eq_nil_iff.mp hne), eq_comm]

/-- a custom identifier list of the wrong length is refused -/
theorem wrong_count (S : Suite F E) (key : F) (n t : Nat) (ids : List F) (tape : Tape)
    (h1 : 2 ≤ t) (h2 : t ≤ n) (hlen : ids.length ≠ n) :
    split S key n t (some ids) tape = .error .IncorrectNumberOfIdentifiers := by
  unfold split
  rw [validate_ok t n h1 h2]
  simp [wrongIdentifierCount, hlen]

/-- duplicate identifiers are refused (after the coefficients were drawn) -/
theorem duplicate_ids (S : Suite F E) (key : F) (n t : Nat) (ids : List F) (tape tape' : Tape)
    (coeffs : List F) (h1 : 2 ≤ t) (h2 : t ≤ n) (hlen : ids.length = n) (hdup : ¬ ids.Nodup)
    (hgen : generateCoefficients S (t - 1) tape = some (coeffs, tape')) :
    split S key n t (some ids) tape = .error .DuplicatedIdentifier := by
  have hcl : coeffs.length = t - 1 := generateCoefficients_length hgen
  have hl : wrongIdentifierCount (some ids) n = false := by simp [wrongIdentifierCount, hlen]
  unfold split
  rw [validate_ok t n h1 h2]
  simp only [hl, Bool.false_eq_true, if_false, hgen, identifierList,
    generateSecretShares_eq S key n t coeffs ids h1 h2 hcl, if_neg hdup]

/-- invalid `(t, n)` are refused with the code's exact error -/
theorem invalid_params (S : Suite F E) (key : F) (n t : Nat) (ids : Option (List F)) (tape : Tape)
    (h : t < 2 ∨ n < 2 ∨ t > n) :
    split S key n t ids tape =
      .error (if t < 2 then .InvalidMinSigners else if n < 2 then .InvalidMaxSigners
              else .InvalidMinSigners) := by
  unfold split validateNumOfSigners
  by_cases a : t < 2
  · simp [a]
  · by_cases b : n < 2
    · simp [a, b]
    · simp [a, b, (h.resolve_left a).resolve_left b]

/-! Non-vacuity: `split_ok`'s hypotheses hold for the example suite over ℚ
    (3 participants `1,2,3`, threshold 2, one drawn coefficient). -/
example : ∃ coeffs tape', generateCoefficients exSuite (2 - 1) [0, 0] = some (coeffs, tape') ∧
    ([1, 2, 3] : List ℚ).Nodup ∧ ([1, 2, 3] : List ℚ).length = 3 :=
  ⟨[1], [0], rfl, by decide, rfl⟩

end Frost.C06

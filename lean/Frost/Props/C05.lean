/-
  C05 — A signature share is bound to one message, one commitment set and one signer set.
-/
import Frost.Proofs.Honest

set_option linter.unusedSectionVars false

namespace Frost.C05
open Frost Frost.SignSession

variable {F E : Type} [Field F] [DecidableEq F] [AddCommGroup E] [Module F E] [DecidableEq E]

/-- a signer refuses when its own entry in the package is missing -/
theorem sign_missing_commitment (S : Suite F E) (pkg : SigningPackage F E)
    (nonces : SigningNonces F E) (kp : KeyPackage F E)
    (hn : kp.minSigners ≤ pkg.commitments.length) (h : SMap.get? pkg.commitments kp.id = none) :
    sign S pkg nonces kp = .error .MissingCommitment := by
  unfold sign
  have : ¬ pkg.commitments.length < kp.minSigners := by omega
  simp [this, h]

/-- … and when it differs from the commitments of the nonces it is asked to use -/
theorem sign_incorrect_commitment (S : Suite F E) (pkg : SigningPackage F E)
    (nonces : SigningNonces F E) (kp : KeyPackage F E) (c : SigningCommitments E)
    (hn : kp.minSigners ≤ pkg.commitments.length) (h : SMap.get? pkg.commitments kp.id = some c)
    (hne : nonces.commitments ≠ c) :
    sign S pkg nonces kp = .error .IncorrectCommitment := by
  unfold sign
  have : ¬ pkg.commitments.length < kp.minSigners := by omega
  simp [this, h, hne]

/-- **A package containing an identity commitment never yields a group commitment**: so
    neither `sign` nor `aggregate` nor share verification can succeed on it. -/
theorem identity_commitment_rejected (S : Suite F E) (pkg : SigningPackage F E)
    (bfl : List (F × F)) (c : F × SigningCommitments E) (hc : c ∈ pkg.commitments)
    (hid : c.2.hid = 0 ∨ c.2.bnd = 0) (R : E) :
    computeGroupCommitment S pkg bfl ≠ .ok R := by
  intro h
  obtain ⟨_, h1, h2⟩ := (computeGroupCommitment_eq h).1 c hc
  exact hid.elim h1 h2

/-- when the identity is not encodable (all six suites), the binding-factor computation
    already fails on such a package with `GroupError::InvalidIdentityElement` -/
theorem encode_rejects_identity (S : Suite F E) (h0 : S.encElem 0 = none)
    (pre post : List (F × SigningCommitments E)) (id : F) (c : SigningCommitments E)
    (hid : c.hid = 0 ∨ c.bnd = 0) :
    ∀ b, encodeGroupCommitments S (pre ++ (id, c) :: post) ≠ .ok b := by
  induction pre with
  | nil =>
    intro b h
    obtain ⟨x, y, _, hx, hy, _⟩ := encodeGroupCommitments_cons_eq_ok.mp h
    rcases hid with e | e
    · rw [e, h0] at hx; cases hx
    · rw [e, h0] at hy; cases hy
  | cons a r ih =>
    intro b h
    obtain ⟨_, _, z, _, _, hz, _⟩ := encodeGroupCommitments_cons_eq_ok.mp h
    exact ih z hz

/-- **Exact acceptance condition for a share replayed in another context.**  A share
    honestly produced by signer `i` in session `X` (for package `X.pkg`) and submitted in
    session `X'` (another message, other commitments, another participant set, another group
    key — whatever `X'` is) under the claimed identifier `i'` with verifying share `Y'` is
    accepted iff
    `(dᵢ + eᵢρᵢ + λᵢ sᵢ c) • G = D'_{i'} + ρ'_{i'} • E'_{i'} + λ'_{i'} • (c' • Y')`,
    every primed quantity being recomputed from `X'`. -/
theorem share_accept_iff (B : Base F E) (X X' : SignSession F E) (h' : X'.Ok B) (s : F → F)
    (i i' : F) (hi' : i' ∈ X'.ids) (Y' : E) :
    verifySignatureShare (Suite.ofBase B) i' Y' (X.honest s i) (X'.pkg B) X'.vk = .ok () ↔
      X.honest s i • B.G =
        (X'.d i' • B.G + X'.rho i' • (X'.e i' • B.G)) + X'.lam i' • (X'.c • Y') := by
  have := verifySignatureShare_eq (okS_of_ok h') i' hi' (X.honest s i) Y'
  simp only [shareOkS, one_smul] at this
  exact this ▸ Outcome.ite_eq_ok

/-- in particular, in its own session the honest share is accepted -/
theorem own_session_accepts (B : Base F E) (X : SignSession F E) (h : X.Ok B) (s : F → F)
    (i : F) (hi : i ∈ X.ids) :
    verifySignatureShare (Suite.ofBase B) i (s i • B.G) (X.honest s i) (X.pkg B) X.vk = .ok () := by
  have := (verifyShare_dev h s i hi 0).mpr (zero_smul _ _)
  rwa [add_zero] at this

/-! ### what the binding factor, the commitment list and the challenge cover -/

/-- fixed-width, injective encoders (true of every ciphersuite) -/
structure FixedWidth (S : Suite F E) (hashLen : Nat) : Prop where
  scalarLen : ∀ x, (S.encScalar x).length = S.scalarLen
  scalarInj : ∀ x y, S.encScalar x = S.encScalar y → x = y
  elemLen : ∀ P b, S.encElem P = some b → b.length = S.elemLen
  elemInj : ∀ P Q b, S.encElem P = some b → S.encElem Q = some b → P = Q
  h4Len : ∀ m, (S.H4 m).length = hashLen
  h5Len : ∀ m, (S.H5 m).length = hashLen
  pos : 0 < S.scalarLen

/-- **The encoded commitment list determines the whole list of `(identifier, hiding,
    binding)`**: two packages with the same encoding have the same participants and the same
    commitments (so `H5` is applied to an injective encoding). -/
theorem encodeGroupCommitments_injective (S : Suite F E) (n : Nat) (fw : FixedWidth S n)
    (cs cs' : List (F × SigningCommitments E)) (b : Bytes)
    (h : encodeGroupCommitments S cs = .ok b) (h' : encodeGroupCommitments S cs' = .ok b) :
    cs = cs' := by
  -- a non-empty list encodes to a non-empty string: it starts with a scalar encoding
  have hne : ∀ i c r, encodeGroupCommitments S ((i, c) :: r) ≠ .ok [] := by
    intro i c r h0
    obtain ⟨x, y, z, _, _, _, e⟩ := encodeGroupCommitments_cons_eq_ok.mp h0
    have := congrArg List.length e
    simp only [List.length_nil, List.length_append, fw.scalarLen] at this
    have := fw.pos; omega
  induction cs generalizing cs' b with
  | nil =>
    cases h
    cases cs' with
    | nil => rfl
    | cons a r => exact absurd h' (hne _ _ _)
  | cons a r ih =>
    cases cs' with
    | nil => cases h'; exact absurd h (hne _ _ _)
    | cons a' r' =>
      obtain ⟨i, c⟩ := a
      obtain ⟨i', c'⟩ := a'
      obtain ⟨x, y, z, hx, hy, hz, rfl⟩ := encodeGroupCommitments_cons_eq_ok.mp h
      obtain ⟨x', y', z', hx', hy', hz', e⟩ := encodeGroupCommitments_cons_eq_ok.mp h'
      simp only [List.append_assoc] at e
      obtain ⟨e1, e⟩ := List.append_inj e (by rw [fw.scalarLen, fw.scalarLen])
      obtain ⟨e2, e⟩ := List.append_inj e (by rw [fw.elemLen _ _ hx, fw.elemLen _ _ hx'])
      obtain ⟨e3, e4⟩ := List.append_inj e (by rw [fw.elemLen _ _ hy, fw.elemLen _ _ hy'])
      have hc : c = c' := by
        cases c
        cases c'
        exact congrArg₂ _ (fw.elemInj _ _ _ hx (e2 ▸ hx')) (fw.elemInj _ _ _ hy (e3 ▸ hy'))
      rw [fw.scalarInj _ _ e1, ih r' z hz (e4 ▸ hz'), hc]

/-- **The binding-factor preimage `enc(vk) ‖ H4(msg) ‖ H5(list) ‖ enc(id)` determines its four
    parts**: the group key, the message digest, the commitment-list digest and the signer's
    identifier are all covered. -/
theorem bindingPreimage_injective (S : Suite F E) (n : Nat) (fw : FixedWidth S n)
    (vk vk' : E) (vb vb' : Bytes) (hv : S.encElem vk = some vb) (hv' : S.encElem vk' = some vb')
    (m m' l l' : Bytes) (id id' : F)
    (h : vb ++ S.H4 m ++ S.H5 l ++ [] ++ S.encScalar id =
         vb' ++ S.H4 m' ++ S.H5 l' ++ [] ++ S.encScalar id') :
    vk = vk' ∧ S.H4 m = S.H4 m' ∧ S.H5 l = S.H5 l' ∧ id = id' := by
  simp only [List.append_assoc, List.nil_append] at h
  obtain ⟨e1, h⟩ := List.append_inj h (by rw [fw.elemLen _ _ hv, fw.elemLen _ _ hv'])
  obtain ⟨e2, h⟩ := List.append_inj h (by rw [fw.h4Len, fw.h4Len])
  obtain ⟨e3, e4⟩ := List.append_inj h (by rw [fw.h5Len, fw.h5Len])
  exact ⟨fw.elemInj _ _ _ hv (e1 ▸ hv'), e2, e3, fw.scalarInj _ _ e4⟩

/-- **The challenge preimage `enc(R) ‖ enc(vk) ‖ msg` determines the group commitment, the
    group key and the whole message.** -/
theorem challengePreimage_injective (S : Suite F E) (n : Nat) (fw : FixedWidth S n)
    (R R' vk vk' : E) (rb rb' vb vb' : Bytes) (hr : S.encElem R = some rb)
    (hr' : S.encElem R' = some rb') (hv : S.encElem vk = some vb) (hv' : S.encElem vk' = some vb')
    (m m' : Bytes) (h : rb ++ vb ++ m = rb' ++ vb' ++ m') : R = R' ∧ vk = vk' ∧ m = m' := by
  simp only [List.append_assoc] at h
  obtain ⟨e1, h⟩ := List.append_inj h (by rw [fw.elemLen _ _ hr, fw.elemLen _ _ hr'])
  obtain ⟨e2, e3⟩ := List.append_inj h (by rw [fw.elemLen _ _ hv, fw.elemLen _ _ hv'])
  exact ⟨fw.elemInj _ _ _ hr (e1 ▸ hr'), fw.elemInj _ _ _ hv (e2 ▸ hv'), e3⟩

/-! Non-vacuity: `sign_missing_commitment`'s hypotheses on a concrete package over ℚ. -/
example : (2 : Nat) ≤ ([((1 : ℚ), (⟨1, 1⟩ : SigningCommitments ℚ)), (2, ⟨1, 1⟩)]).length ∧
    SMap.get? [((1 : ℚ), (⟨1, 1⟩ : SigningCommitments ℚ)), (2, ⟨1, 1⟩)] 3 = none := by
  constructor
  · decide
  · simp [SMap.get?]

end Frost.C05

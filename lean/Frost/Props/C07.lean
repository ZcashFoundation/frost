/-
  C07 — Honest distributed key generation ends with one group key and matching shares.

  The check of this property also audits `C09.pkp_function_of_commitments` and
  `C09.common_set_can_sign` (one group key for all, and they can sign): hence the import of C09.
-/
import Frost.Proofs.Dkg
import Frost.Props.C09

namespace Frost.C07
open Frost

variable {F E : Type} [Field F] [DecidableEq F] [AddCommGroup E] [Module F E] [DecidableEq E]

/-- **Completeness of the proof of knowledge**: the proof `part1` computes
    (`R = k•G`, `μ = k + a₀·c`) is accepted by `verify_proof_of_knowledge`. -/
theorem pok_complete (S : Suite F E) (id a0 k : F) (rest : List E) (c : F)
    (hc : dkgChallenge S id (a0 • S.G) (k • S.G) = .ok c) :
    verifyProofOfKnowledge S id (a0 • S.G :: rest) ⟨k • S.G, k + a0 * c⟩ = .ok () :=
  Frost.pok_complete S id a0 k rest c hc

/-- what `compute_proof_of_knowledge` returns (default nonce generation) -/
theorem computePok_eq (B : Base F E) (id : F) (a0 : F) (cr : List F) (t t' : Tape) (k c : F)
    (hk : B.randomNonzero t = some (k, t'))
    (hc : dkgChallenge (Suite.ofBase B) id (a0 • B.G) (k • B.G) = .ok c) :
    computeProofOfKnowledge (Suite.ofBase B) id (a0 :: cr) ((a0 :: cr).map fun x => x • B.G) t =
      .ok (⟨k • B.G, k + a0 * c⟩, t') := by
  unfold computeProofOfKnowledge
  simp only [ofBase_generateNonce, Base.defaultGenerateNonce, hk, List.map_cons, List.head?_cons]
  simp only [hc]

theorem part2Loop_honest (S : Suite F E) (c0 : F) (cr : List F)
    (r1 : List (F × Round1Package F E))
    (hpok : ∀ ip ∈ r1, verifyProofOfKnowledge S ip.1 ip.2.commitment ip.2.pok = .ok ()) :
    part2Loop S (c0 :: cr) r1 = .ok (r1.map fun ip => (ip.1, hornerR (c0 :: cr) ip.1)) := by
  induction r1 with
  | nil => rfl
  | cons ip rest ih =>
    obtain ⟨l, p⟩ := ip
    unfold part2Loop
    have := hpok (l, p) List.mem_cons_self
    simp only at this
    simp only [this, evaluatePolynomial_eq, ih fun ip hip => hpok ip (List.mem_cons_of_mem _ hip), List.map_cons]

/-- **`part2` succeeds on honest round-one packages** and sends `f_me(ℓ)` to every peer `ℓ`,
    keeping `f_me(me)`. -/
theorem part2_honest (S : Suite F E) (me c0 : F) (cr : List F) (cm : List E) (t n : Nat)
    (r1 : List (F × Round1Package F E)) (h0 : n ≠ 0) (hlen : r1.length = n - 1)
    (hown : me ∉ SMap.keys r1) (hL : ∀ ip ∈ r1, asU16 ip.2.commitment.length = t)
    (hpok : ∀ ip ∈ r1, verifyProofOfKnowledge S ip.1 ip.2.commitment ip.2.pok = .ok ()) :
    dkgPart2 S ⟨me, c0 :: cr, cm, t, n⟩ r1 =
      .ok (⟨me, cm, hornerR (c0 :: cr) me, t, n⟩, r1.map fun ip => (ip.1, hornerR (c0 :: cr) ip.1)) := by
  unfold dkgPart2
  dsimp only
  rw [if_neg h0, if_neg (not_not.mpr hlen), if_neg (SMap.not_contains_of_not_mem hown), if_neg,
    part2Loop_honest S c0 cr r1 hpok, evaluatePolynomial_eq]
  rw [List.any_eq_true]
  rintro ⟨ip, hip, hne⟩
  exact of_decide_eq_true hne (hL ip hip)

/-- **`part3` succeeds in the honest run** and the outputs are the sharing of the summed
    polynomial `F(x) = f_me(x) + Σ_ℓ f_ℓ(x)`: signing share `F(me)`, group key `F(0)•G`
    (the sum of all constant-term commitments), verifying share `F(i)•G` for every
    participant `i`, threshold `t`. `cs ℓ` is participant `ℓ`'s coefficient list. -/
theorem part3_honest (S : Suite F E) (hpost : ∀ kp pkp, S.postDkg kp pkp = (kp, pkp))
    (me : F) (cs : F → List F) (t n : Nat) (ht : 0 < t) (hcs : ∀ l, (cs l).length = t)
    (r1 : List (F × Round1Package F E)) (h0 : n ≠ 0) (hlen : r1.length = n - 1)
    (hown : me ∉ SMap.keys r1) (hnd : (SMap.keys r1).Nodup)
    (hcm : ∀ ip ∈ r1, ip.2.commitment = (cs ip.1).map fun c => c • S.G) :
    let Ftot := fun x => hornerR (cs me) x + ((SMap.keys r1).map fun l => hornerR (cs l) x).sum
    ∃ kp pkp,
      dkgPart3 S ⟨me, (cs me).map fun c => c • S.G, hornerR (cs me) me, t, n⟩ r1
        (r1.map fun ip => (ip.1, hornerR (cs ip.1) me)) = .ok (kp, pkp) ∧
      kp = ⟨me, Ftot me, Ftot me • S.G, Ftot 0 • S.G, t⟩ ∧
      pkp.vk = Ftot 0 • S.G ∧ pkp.minSigners = some (asU16 t) ∧
      ∀ id ∈ me :: SMap.keys r1, SMap.get? pkp.vshares id = some (Ftot id • S.G) := by
  intro Ftot
  obtain ⟨hloop, pkp, hpk, hvk, hmin, _, hget⟩ := honest_loop_and_package S me
    (r1.map fun ip => (ip.1, ip.2.commitment)) true cs t ht hcs (by rwa [SMap.keys_map_snd])
    (by rwa [SMap.keys_map_snd]) (List.forall_mem_map.mpr hcm)
  simp only [SMap.keys_map_snd, List.map_map] at hloop hvk hget
  have hrun := (dkgPart3_eq_ok S ⟨me, _, hornerR (cs me) me, t, n⟩ r1
    (r1.map fun ip => (ip.1, hornerR (cs ip.1) me)) _).mpr ⟨h0, hlen, hown,
      by rwa [SMap.keys_map_snd], by rw [List.length_map],
      by rw [SMap.keys_map_snd]; exact fun _ h => h, _, _, hloop, hpk, rfl⟩
  rw [hpost] at hrun
  refine ⟨_, _, hrun, ?_, hvk, hmin, hget⟩
  rw [hvk, add_comm _ (hornerR (cs me) me)]

/-! Non-vacuity: the challenge hypothesis of `pok_complete` is satisfiable in the example
    suite over ℚ. -/
example : dkgChallenge exSuite (1 : ℚ) ((2 : ℚ) • exSuite.G) ((3 : ℚ) • exSuite.G) = .ok 1 := by
  simp [dkgChallenge, Base.encElemO, exSuite, Suite.ofBase, exBase, Outcome.ofOption]

end Frost.C07

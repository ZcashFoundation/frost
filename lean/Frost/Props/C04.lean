/-
  C04 — Aggregation never releases an invalid signature and blames exactly the cheaters.
-/
import Frost.Proofs.Honest

namespace Frost.C04
open Frost Frost.SignSession

variable {F E : Type} [Field F] [DecidableEq F] [AddCommGroup E] [Module F E] [DecidableEq E]

/-- **Whenever aggregation returns a signature, that signature verifies** under the
    (pre-processed) group key for the package's message — for every ciphersuite
    (any hooks), every detection mode and *every* input, consistent or not. -/
theorem aggregate_ok_verifies (S : Suite F E) (pkg : SigningPackage F E) (shares : List (F × F))
    (pkp : PublicKeyPackage F E) (mode : CheaterDetection) (σ : Signature F E)
    (h : aggregateCustom S pkg shares pkp mode = .ok σ) :
    verifySignature S (S.preAggregate pkp).vk pkg.message σ = .ok () := by
  obtain ⟨_, _, _, _, hv⟩ := aggregateCustom_ok h
  exact hv

/-- **Exact culprits.**  Keys on a polynomial (`|cs| ≤ |signers|`, key `f(0)•G`, verifying
    shares `f(i)•G`), honest commitments, submitted shares `zᵢ = honestᵢ + δᵢ`:
    * if `Σδᵢ = 0` the aggregate is released (and it is valid by `aggregate_ok_verifies`)
      — altered shares whose errors cancel can at most yield a valid signature;
    * otherwise the error is `culpritReport` (Frost.Proofs.Signing): `Disabled` reports `InvalidSignature` and names nobody, `FirstCheater`
      names exactly the first (lowest, in map order) signer with `δᵢ ≠ 0`, `AllCheaters`
      names exactly the signers with `δᵢ ≠ 0` in map order.
    A signer with `δᵢ = 0` is never named. -/
theorem culprits_exact (B : Base F E) (X : SignSession F E) (h : X.Ok B)
    (hG : B.G ≠ 0) (hcof : B.cofactor ≠ 0)
    (cs : List F) (hlen : cs.length ≤ X.ids.length) (hvk : X.vk = hornerR cs 0 • B.G)
    (pkp : PublicKeyPackage F E) (hpvk : pkp.vk = X.vk)
    (hvs : ∀ i ∈ X.ids, SMap.get? pkp.vshares i = some (hornerR cs i • B.G))
    (hmin : ∀ m, pkp.minSigners = some m → m ≤ X.ids.length)
    (δ : F → F) (mode : CheaterDetection) :
    let s := fun i => hornerR cs i
    let z := fun i => X.honest s i + δ i
    aggregateCustom (Suite.ofBase B) (X.pkg B) (X.sharesMap z) pkp mode =
      if (X.ids.map δ).sum = 0 then .ok ⟨X.R, (X.ids.map z).sum⟩
      else .error (culpritReport X.ids (fun i => decide (δ i ≠ 0)) mode) := by
  intro s z
  have := (okS_of_ok h).aggregate_dev hG hcof s δ _ hvk pkp hpvk hvs hmin mode
  rwa [honestS_one, lam_sum h.nodup cs hlen, sub_self, mul_zero, zero_add] at this

/-- **The standalone share verification accepts exactly the honest share**:
    a share deviating by `δ` is accepted iff `δ = 0`. -/
theorem verify_share_iff (B : Base F E) (X : SignSession F E) (h : X.Ok B) (hG : B.G ≠ 0)
    (s : F → F) (i : F) (hi : i ∈ X.ids) (δ : F) :
    verifySignatureShare (Suite.ofBase B) i (s i • B.G) (X.honest s i + δ) (X.pkg B) X.vk = .ok ()
      ↔ δ = 0 := by
  rw [verifyShare_dev h s i hi, smul_eq_zero_iff_left hG]

/-! Non-vacuity of `culprits_exact`'s algebraic hypotheses over ℚ. -/
example : (1 : ℚ) ≠ 0 ∧ ([1, 2, 3] : List ℚ).Nodup ∧ ([5, 6] : List ℚ).length ≤ 3 := by
  refine ⟨one_ne_zero, by decide, by decide⟩

end Frost.C04

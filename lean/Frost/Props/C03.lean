/-
  C03 — Fewer than the threshold of key holders can neither sign nor recover the key.
-/
import Frost.Proofs.Honest
import Frost.Proofs.Maps

set_option linter.unusedSectionVars false

namespace Frost.C03
open Frost Frost.SignSession

variable {F E : Type} [Field F] [DecidableEq F] [AddCommGroup E] [Module F E] [DecidableEq E]

/-- A signer refuses a signing package that lists fewer than `min_signers` participants
    (every suite, every input; this is the first guard of `sign`). -/
theorem sign_refuses_few (S : Suite F E) (pkg : SigningPackage F E) (nonces : SigningNonces F E)
    (kp : KeyPackage F E) (h : pkg.commitments.length < kp.minSigners) :
    sign S pkg nonces kp = .error .IncorrectNumberOfCommitments := by
  unfold sign; simp [h]

/-- The coordinator refuses fewer than `min_signers` shares. -/
theorem aggregate_refuses_few (S : Suite F E) (pkg : SigningPackage F E) (shares : List (F × F))
    (pkp : PublicKeyPackage F E) (mode : CheaterDetection) (m : Nat)
    (hlen : pkg.commitments.length = shares.length) (hm : pkp.minSigners = some m)
    (h : shares.length < m) :
    aggregateCustom S pkg shares pkp mode = .error .IncorrectNumberOfShares := by
  unfold aggregateCustom belowMin; simp [hlen, hm, h]

/-- … and a share map whose size differs from the package is refused before that. -/
theorem aggregate_refuses_mismatch (S : Suite F E) (pkg : SigningPackage F E)
    (shares : List (F × F)) (pkp : PublicKeyPackage F E) (mode : CheaterDetection)
    (hlen : pkg.commitments.length ≠ shares.length) :
    aggregateCustom S pkg shares pkp mode = .error .UnknownIdentifier := by
  unfold aggregateCustom; simp [hlen]

theorem lt_foldl_min_iff {l : List (KeyPackage F E)} {a n : Nat} :
    n < l.foldl (fun m k => min m k.minSigners) a ↔ n < a ∧ ∀ kp ∈ l, n < kp.minSigners := by
  induction l generalizing a with
  | nil => simp
  | cons b r ih => rw [List.foldl_cons, ih, lt_min_iff, List.forall_mem_cons, and_assoc]

/-- `reconstruct` refuses fewer key packages than the recorded threshold. -/
theorem reconstruct_refuses_few (S : Suite F E) (kps : List (KeyPackage F E)) (hne : kps ≠ [])
    (h : ∀ kp ∈ kps, kps.length < kp.minSigners) :
    reconstruct S kps = .error .IncorrectNumberOfShares := by
  cases kps with
  | nil => exact absurd rfl hne
  | cons kp0 rest =>
    unfold reconstruct
    simp only
    rw [if_pos (lt_foldl_min_iff.mpr (List.forall_mem_cons.mp h))]

/-- **The algebraic heart.**  Let any `k` distinct key holders (the signers `X.ids`; `k`
    may be below the real threshold `t = |cs|`) run the honest algorithm with a *lowered*
    `min_signers` (`m ≤ k` in every key package and in the public key package).  Then
    aggregation releases a signature — necessarily valid under the group key `f(0)•G` by
    C04 — **iff** `c = 0` or the `k` shares happen to interpolate to the secret:
    `c · (Σ λᵢ f(i) − f(0)) = 0`. -/
theorem below_threshold_iff (B : Base F E) (X : SignSession F E) (h : X.Ok B)
    (hG : B.G ≠ 0) (hcof : B.cofactor ≠ 0) (cs : List F) (hvk : X.vk = hornerR cs 0 • B.G)
    (pkp : PublicKeyPackage F E) (hpvk : pkp.vk = X.vk)
    (hvs : ∀ i ∈ X.ids, SMap.get? pkp.vshares i = some (hornerR cs i • B.G))
    (hmin : ∀ m, pkp.minSigners = some m → m ≤ X.ids.length) (mode : CheaterDetection) :
    let s := fun i => hornerR cs i
    (∃ σ, aggregateCustom (Suite.ofBase B) (X.pkg B) (X.sharesMap (X.honest s)) pkp mode = .ok σ)
      ↔ X.c * ((X.ids.map fun i => X.lam i * s i).sum - hornerR cs 0) = 0 := by
  exact aggregate_ok_iff_interp h hG hcof _ _ hvk pkp hpvk hvs hmin mode

/-- with at least `t` signers the coincidence always holds (this is C01) -/
theorem at_threshold (B : Base F E) (X : SignSession F E) (h : X.Ok B) (cs : List F)
    (hlen : cs.length ≤ X.ids.length) :
    X.c * ((X.ids.map fun i => X.lam i * hornerR cs i).sum - hornerR cs 0) = 0 := by
  rw [lam_sum h.nodup cs hlen, sub_self, mul_zero]

theorem reconstructLoop_eq (ids : List F) (kps : List (KeyPackage F E))
    (hmem : ∀ kp ∈ kps, kp.id ∈ ids) (acc : F) :
    reconstructLoop ids kps acc =
      .ok (acc + (kps.map fun kp => lagBasis ids 0 kp.id * kp.share).sum) := by
  induction kps generalizing acc with
  | nil => simp [reconstructLoop]
  | cons kp r ih =>
    unfold reconstructLoop
    rw [computeLagrangeCoefficient_eq ids none kp.id (hmem kp (by simp))]
    simp only [Option.getD_none]
    rw [ih (fun k hk => hmem k (by simp [hk]))]
    simp [add_assoc]

/-- **Interpolating `k` shares** (distinct holders, some recorded threshold at most `k`: the
    code compares with the minimum) returns `Σ λᵢ sᵢ` over the set of holders — the group secret
    `f(0)` only on the same coincidence as above. -/
theorem reconstruct_eq (S : Suite F E) (kps : List (KeyPackage F E)) (hne : kps ≠ [])
    (hnd : (kps.map (·.id)).Nodup) (hmin : ∃ kp ∈ kps, kp.minSigners ≤ kps.length) :
    reconstruct S kps = .ok ((kps.map fun kp =>
      lagBasis (SMap.setOfList S.idLt (kps.map (·.id))) 0 kp.id * kp.share).sum) := by
  cases kps with
  | nil => exact absurd rfl hne
  | cons kp0 rest =>
    unfold reconstruct
    have h1 : ¬ (kp0 :: rest).length < rest.foldl (fun m k => min m k.minSigners) kp0.minSigners := by
      intro hlt
      obtain ⟨kp, hk, hkm⟩ := hmin
      have hall : ∀ k ∈ kp0 :: rest, (kp0 :: rest).length < k.minSigners :=
        List.forall_mem_cons.mpr (lt_foldl_min_iff.mp hlt)
      exact Nat.not_lt.mpr hkm (hall kp hk)
    have h2 : (SMap.setOfList S.idLt ((kp0 :: rest).map (·.id))).length = (kp0 :: rest).length := by
      rw [(SMap.setOfList_perm _ hnd).length_eq]; simp
    simp only [h1, if_false, h2, ne_eq, not_true_eq_false]
    rw [reconstructLoop_eq]
    · simp
    · intro kp hk
      rw [SMap.mem_setOfList]
      exact List.mem_map.mpr ⟨kp, hk, rfl⟩

/-! Non-vacuity: over ℚ, the polynomial `5 + 7x` (t = 2) and the single holder `1`
    (k = 1 < t): the coincidence fails (`λ₁ f(1) − f(0) = 12 − 5 ≠ 0`), so by
    `below_threshold_iff` one holder signs validly only if `c = 0`. -/
example : lagBasis ([1] : List ℚ) 0 1 * hornerR [5, 7] 1 - hornerR [5, 7] 0 ≠ 0 := by
  simp [lagBasis, hornerR]

/-- **One holder short of the threshold**: `t-1` distinct non-zero holders of shares `f(i)` of a
    polynomial with `t` coefficients interpolate to the secret `f(0)` iff its top coefficient is
    zero — the only coincidence in `below_threshold_iff` / `reconstruct_eq` for `k = t-1`, an
    event of probability `1/q` over the dealer's (or the participants') randomness.
    (`xs` is any listing of the holders' identifiers, in particular the sorted set that
    `reconstruct` and the signing session use.) -/
theorem one_fewer_iff_top_coefficient (xs : List F) (hnd : xs.Nodup) (h0 : ∀ x ∈ xs, x ≠ 0)
    (hk : 0 < xs.length) (cs : List F) (a : F) (hlen : cs.length = xs.length) :
    (xs.map fun i => lagBasis xs 0 i * hornerR (cs ++ [a]) i).sum = hornerR (cs ++ [a]) 0 ↔ a = 0 := by
  have hprod : (xs.map fun xi => -xi).prod ≠ 0 :=
    prod_map_ne_zero xs _ fun x hx => neg_ne_zero.mpr (h0 x hx)
  -- split off the top term: the rest interpolates exactly, the top term to `a · (−∏(−xᵢ))`
  have hsplit : (xs.map fun i => lagBasis xs 0 i * hornerR (cs ++ [a]) i).sum =
      hornerR cs 0 + a * -(xs.map fun xi => -xi).prod := by
    simp only [hornerR_append_singleton, mul_add, List.sum_map_add, mul_left_comm _ a,
      List.sum_map_mul_left, hlen, lagrange_interp_list xs hnd cs hlen.le 0,
      interp_pow_at_zero xs hnd hk]
  -- at `0` the top term vanishes, and `−∏(−xᵢ) ≠ 0`
  rw [hsplit, hornerR_append_singleton, hlen, zero_pow hk.ne', mul_zero, add_zero, add_eq_left,
    mul_eq_zero, neg_eq_zero, or_iff_left hprod]

/-- non-vacuity: two holders {1, 2} of a 3-coefficient polynomial over ℚ -/
example : ((([1, 2] : List ℚ).map fun i => lagBasis [1, 2] 0 i * hornerR ([5, 3] ++ [7]) i).sum
    = hornerR ([5, 3] ++ [7]) 0) ↔ (7 : ℚ) = 0 :=
  one_fewer_iff_top_coefficient [1, 2] (by decide) (by decide) (by decide) [5, 3] 7 rfl

end Frost.C03

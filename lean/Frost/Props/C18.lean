/-
  C18 — Taproot signatures are valid BIP-340 signatures for the BIP-341 output key.

  `evenY` and `xOnly` are abstract; the theorems quantify over *all* group elements, so every
  combination of (internal-key, output-key, group-commitment) parity is covered: the parity of
  the group commitment through the sign `sgnR` (Frost.Proofs.TaprootSigning), those of the keys
  through `sgnK` below.  The only facts assumed about them are
  `evenY (−P) = !evenY P` for `P ≠ 0` and `xOnly (−P) = xOnly P`.
-/
import Frost.Proofs.TaprootSigning
import Frost.Proofs.Honest

set_option linter.unusedSectionVars false

namespace Frost.C18
open Frost Frost.SignSession

variable {F E : Type} [Field F] [DecidableEq F] [AddCommGroup E] [Module F E] [DecidableEq E]

/-- sign of the even-Y normalisation of a key -/
def sgnK (P : TrParams F E) (vk : E) : F := if P.evenY vk then 1 else -1

theorem sgnK_smul (P : TrParams F E) (vk Q : E) :
    (if P.evenY vk then Q else -Q) = sgnK P vk • Q := by
  unfold sgnK
  split
  · rw [one_smul]
  · rw [neg_one_smul]

/-- **Even-Y normalisation negates the whole sharing**: a key package with share `s`,
    verifying share `s•G` and group key `key•G` becomes the package with `σs`, `(σs)•G`,
    `(σ·key)•G` (`σ = ±1`), so it is again a consistent sharing — of the even-Y key. -/
theorem evenKp_sharing (P : TrParams F E) (G : E) (id s key : F) (m : Nat) :
    P.evenKp ⟨id, s, s • G, key • G, m⟩ =
      ⟨id, sgnK P (key • G) * s, (sgnK P (key • G) * s) • G, (sgnK P (key • G) * key) • G, m⟩ := by
  unfold TrParams.evenKp sgnK
  split
  · simp only [one_mul]
  · simp only [neg_one_mul, neg_smul]

theorem evenKp_even (P : TrParams F E) (hneg : ∀ Q : E, Q ≠ 0 → P.evenY (-Q) = !P.evenY Q)
    (kp : KeyPackage F E) (hne : kp.vk ≠ 0) : P.evenY (P.evenKp kp).vk = true := by
  unfold TrParams.evenKp
  by_cases h : P.evenY kp.vk = true
  · simp [h]
  · simp only [h, if_false, Bool.false_eq_true]
    rw [hneg _ hne]; simp [h]

/-- **The tweak maps a sharing of the internal key `P = key•G` to a sharing of the BIP-341
    output key `Q = even(P) + τ•G`**, `τ = tweak(P, root)`: shares `σs + τ` (a constant shift of
    the even-normalised polynomial), verifying shares and group key shifted by `τ•G`. -/
theorem tweakKp_sharing (P : TrParams F E) (G : E) (id s key : F) (m : Nat) (root : Option Bytes) :
    let τ := P.tweak (key • G) root
    let σ := sgnK P (key • G)
    P.tweakKp G ⟨id, s, s • G, key • G, m⟩ root =
      ⟨id, σ * s + τ, (σ * s + τ) • G, (σ * key + τ) • G, m⟩ := by
  intro τ σ
  rw [TrParams.tweakKp, evenKp_sharing, add_smul, add_smul]

/-- the output key is `even(P) + τ•G`, exactly BIP-341's `Q = lift_x(x(P)) + τG` -/
theorem tweakKp_outputKey (P : TrParams F E) (G : E) (kp : KeyPackage F E) (root : Option Bytes) :
    (P.tweakKp G kp root).vk =
      (if P.evenY kp.vk then kp.vk else -kp.vk) + P.tweak kp.vk root • G := by
  unfold TrParams.tweakKp TrParams.evenKp
  split <;> rfl

theorem tweakPkp_outputKey (P : TrParams F E) (G : E) (pkp : PublicKeyPackage F E)
    (root : Option Bytes) :
    (P.tweakPkp G pkp root).vk =
      (if P.evenY pkp.vk then pkp.vk else -pkp.vk) + P.tweak pkp.vk root • G := by
  unfold TrParams.tweakPkp TrParams.evenPkp
  split <;> rfl

/-- key generation outputs the key-path-only tweaked key (`post_dkg` = tweak with no root) -/
theorem post_dkg_tweak (B : Base F E) (P : TrParams F E) (kp : KeyPackage F E)
    (pkp : PublicKeyPackage F E) :
    (Suite.taproot B P).postDkg kp pkp = (P.tweakKp B.G kp none, P.tweakPkp B.G pkp none) := rfl

/-- **Taproot signing is correct and yields a BIP-340 signature** — for keys on a polynomial
    (dealer or DKG, after tweaking: `vk` is the *even-Y* output key the packages carry after
    `pre_sign`/`pre_aggregate`, `f` its sharing polynomial), any signer list with `|f| ≤ |S|`,
    any message, any nonces, and **both parities of the group commitment**:
    every `sign` succeeds, the aggregate is released in every detection mode, and the output
    `(R, z)` satisfies `z•G = even(R) + e•vk` with `e = H(xOnly R ‖ xOnly vk ‖ m)` — the
    BIP-340 verification equation for the x-only key `xOnly vk`. -/
theorem taproot_sign_correct (B : Base F E) (P : TrParams F E) (X : SignSession F E)
    (h : X.Ok0 B P) (hev : P.evenY X.vk = true) (hx : ∀ Q : E, P.xOnly (-Q) = P.xOnly Q)
    (cs : List F) (hlen : cs.length ≤ X.ids.length) (hvk : X.vk = hornerR cs 0 • B.G)
    (pkp : PublicKeyPackage F E) (hpvk : pkp.vk = X.vk)
    (hvs : ∀ i ∈ X.ids, SMap.get? pkp.vshares i = some (hornerR cs i • B.G))
    (hmin : ∀ m, pkp.minSigners = some m → m ≤ X.ids.length) (m : Nat) (hm : m ≤ X.ids.length) :
    let s := fun i => hornerR cs i
    let z := (X.ids.map (trHonest P X s)).sum
    (∀ i ∈ X.ids, sign (Suite.taproot B P) (X.pkg B) (X.nonces B i) ⟨i, s i, s i • B.G, X.vk, m⟩
        = .ok (trHonest P X s i)) ∧
    (∀ mode, aggregateCustom (Suite.taproot B P) (X.pkg B) (X.sharesMap (trHonest P X s)) pkp mode
        = .ok ⟨X.R, z⟩) ∧
    z • B.G = (if P.evenY X.R then X.R else -X.R) + X.c • X.vk ∧
    X.c = B.H2 (P.xOnly X.R ++ P.xOnly X.vk ++ X.msg) := by
  intro s z
  simp only [z, trHonest_eq]
  have hS := okS_of_ok0 h hev hx
  have hkey : (X.ids.map fun i => X.lam i * s i).sum • B.G = X.vk := by
    rw [lam_sum h.nodup cs hlen, hvk]
  refine ⟨fun i hi => sign_eq hS i hi s _ m hm,
    fun mode => hS.aggregate_honest s hkey pkp hpvk hvs hmin mode, ?_, h.hc⟩
  rw [sgn_smul, ← hkey]
  exact hS.sum_honestS s

/-- **Cheater identification gives the same answers in every parity case**: with submitted
    shares `honestᵢ + δᵢ` the aggregate is released iff `Σδ = 0`; otherwise the report is
    `culpritReport` over the signers with `δᵢ ≠ 0` — the statement of C04, now for the Taproot
    hooks and both parities of the group commitment. -/
theorem taproot_culprits_exact (B : Base F E) (P : TrParams F E) (X : SignSession F E)
    (h : X.Ok0 B P) (hev : P.evenY X.vk = true) (hx : ∀ Q : E, P.xOnly (-Q) = P.xOnly Q)
    (hG : B.G ≠ 0) (hcof : B.cofactor ≠ 0)
    (cs : List F) (hlen : cs.length ≤ X.ids.length) (hvk : X.vk = hornerR cs 0 • B.G)
    (pkp : PublicKeyPackage F E) (hpvk : pkp.vk = X.vk)
    (hvs : ∀ i ∈ X.ids, SMap.get? pkp.vshares i = some (hornerR cs i • B.G))
    (hmin : ∀ m, pkp.minSigners = some m → m ≤ X.ids.length) (δ : F → F)
    (mode : CheaterDetection) :
    let s := fun i => hornerR cs i
    let z := fun i => trHonest P X s i + δ i
    aggregateCustom (Suite.taproot B P) (X.pkg B) (X.sharesMap z) pkp mode =
      if (X.ids.map δ).sum = 0 then .ok ⟨X.R, (X.ids.map z).sum⟩
      else .error (culpritReport X.ids (fun i => decide (δ i ≠ 0)) mode) := by
  intro s z
  simp only [z, trHonest_eq]
  refine ((okS_of_ok0 h hev hx).aggregate_dev hG hcof s δ _ hvk pkp hpvk hvs hmin mode).trans ?_
  rw [lam_sum h.nodup cs hlen, sub_self, mul_zero, zero_add]

/-- **Under the untweaked key**: a signature satisfying the BIP-340 equation for the output
    key `(q)•G` with challenge `e` satisfies it for the untweaked internal key `p•G` with that
    key's challenge `e'` iff `e·q = e'·p` — a coincidence between two hash values when a tweak
    was applied (`q ≠ p`). -/
theorem untweaked_iff (G : E) (hG : G ≠ 0) (p q e e' z : F) (Re : E)
    (hvalid : z • G = Re + e • (q • G)) :
    z • G = Re + e' • (p • G) ↔ e * q = e' * p :=
  other_key_iff hG p q e e' z Re hvalid

/-- **What the Taproot verifier accepts**: after normalising `R` and the key to even `Y`, exactly
    the BIP-340 equation `z•G − c•P' = R'` (cofactor-multiplied; the cofactor of secp256k1 is 1)
    with the x-only challenge — the PARITY of the recomputed point is part of the test, not only
    its x-coordinate. -/
theorem taproot_verify_iff (B : Base F E) (P : TrParams F E) (vk : E) (msg : Bytes)
    (sig : Signature F E) :
    verifySignature (Suite.taproot B P) vk msg sig = .ok () ↔
      B.cofactor • ((sig.z • B.G -
        B.H2 (P.xOnly (if P.evenY sig.R then sig.R else -sig.R) ++
              P.xOnly (if P.evenY vk then vk else -vk) ++ msg) •
          (if P.evenY vk then vk else -vk)) -
        (if P.evenY sig.R then sig.R else -sig.R)) = 0 := by
  rw [verifySignature_eq_ok]
  simp only [tr_preVerify, tr_challenge, Outcome.ok.injEq, exists_eq_left', tr_toBase]
  by_cases h1 : P.evenY sig.R = true <;> simp only [h1, if_true, if_false, Bool.false_eq_true]

/-- **The mirrored response is rejected**: if `(R, z)` verifies, then `(R, 2·c·d − z)` — whose
    recomputed commitment is `−R'`, the point with the SAME x-coordinate and odd `Y` — verifies
    only if `R' = 0` (given `2 ≠ 0` and a non-zero cofactor scalar).  `d` is the discrete
    logarithm of the even-`Y` key. -/
theorem taproot_mirror_rejected (B : Base F E) (h2 : (2 : F) ≠ 0) (hcof : B.cofactor ≠ 0)
    (d c z : F) (R' : E) (hvalid : B.cofactor • ((z • B.G - c • (d • B.G)) - R') = 0) :
    B.cofactor • (((2 * c * d - z) • B.G - c • (d • B.G)) - R') = 0 ↔ R' = 0 := by
  have hv : z • B.G - c • (d • B.G) = R' :=
    sub_eq_zero.mp ((smul_eq_zero_iff_right hcof).mp hvalid)
  -- the mirrored response recomputes `-R'`, so the test asks for `R' + R' = 0`
  have key : ((2 * c * d - z) • B.G - c • (d • B.G)) - R' = -((2 : F) • R') := by
    rw [← hv]
    simp only [sub_smul, mul_smul, two_smul, smul_sub]
    abel
  rw [key, smul_eq_zero_iff_right hcof, neg_eq_zero, smul_eq_zero_iff_right h2]

/-! Non-vacuity: parity functions with the two assumed laws exist — e.g. over ℚ the "parity"
    `evenY x := decide (0 ≤ x)` satisfies `evenY (−x) = !evenY x` for `x ≠ 0`, and
    `xOnly x := []` satisfies `xOnly (−x) = xOnly x`; each of the eight parity combinations
    is realised by suitable signs of key, tweaked key and group commitment. -/
example : ∀ x : ℚ, x ≠ 0 → decide (0 ≤ -x) = !decide (0 ≤ x) := by
  intro x hx
  simp only [neg_nonneg, ← decide_not, decide_eq_decide, not_le]
  exact ⟨fun h => lt_of_le_of_ne h hx, le_of_lt⟩

end Frost.C18

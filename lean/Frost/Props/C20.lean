/-
  C20 — Secret material is wiped on request (and by the same function on drop) and never
  shown in debug output.

  What a theorem can carry here: the LOGIC of the wipe (which fields `zeroize` clears, that
  every secret scalar is among them, that public fields survive) and the NON-INTERFERENCE of
  the debug renderings (they are functions of the public part only).  That the destructor's
  stores reach memory before the block is freed is a runtime fact: the harness observes it at
  deallocation (allocator wrapper, with controls); the model cannot exhibit it.
-/
import Frost.Model.Secrets

namespace Frost.C20
open Frost Frost.Secrets

variable {F E : Type} [Zero F]

/-! ### explicit zeroization leaves every secret scalar equal to zero -/

theorem wipe_secretShare (s : SecretShare F E) :
    (∀ x ∈ secretsOfSecretShare (secretShare s), x = 0) ∧
    (secretShare s).id = s.id ∧ (secretShare s).commitment = s.commitment :=
  ⟨fun _ hx => List.eq_of_mem_singleton hx, rfl, rfl⟩

theorem wipe_keyPackage (k : KeyPackage F E) :
    (∀ x ∈ secretsOfKeyPackage (keyPackage k), x = 0) ∧
    (keyPackage k).id = k.id ∧ (keyPackage k).vshare = k.vshare ∧ (keyPackage k).vk = k.vk :=
  ⟨fun _ hx => List.eq_of_mem_singleton hx, rfl, rfl, rfl⟩

theorem wipe_nonces (n : SigningNonces F E) :
    (∀ x ∈ secretsOfNonces (nonces n), x = 0) ∧ (nonces n).commitments = n.commitments :=
  ⟨List.forall_mem_cons.2 ⟨rfl, fun _ hx => List.eq_of_mem_singleton hx⟩, rfl⟩

/-- the whole polynomial of the round-one secret package is gone (the vector is emptied) -/
theorem wipe_round1Secret (p : Round1Secret F E) :
    secretsOfRound1Secret (round1Secret p) = [] ∧
    (round1Secret p).id = p.id ∧ (round1Secret p).commitment = p.commitment := ⟨rfl, rfl, rfl⟩

theorem wipe_round2Secret (p : Round2Secret F E) :
    (∀ x ∈ secretsOfRound2Secret (round2Secret p), x = 0) ∧
    (round2Secret p).id = p.id ∧ (round2Secret p).commitment = p.commitment :=
  ⟨fun _ hx => List.eq_of_mem_singleton hx, rfl, rfl⟩

theorem wipe_scalar (s : F) : Secrets.scalar s = 0 := rfl

/-- wiping is idempotent (a value wiped on request and again on drop) -/
theorem wipe_idempotent (k : KeyPackage F E) (n : SigningNonces F E) (p : Round1Secret F E)
    (q : Round2Secret F E) (s : SecretShare F E) :
    keyPackage (keyPackage k) = keyPackage k ∧ nonces (nonces n) = nonces n ∧
    round1Secret (round1Secret p) = round1Secret p ∧ round2Secret (round2Secret q) = round2Secret q ∧
    secretShare (secretShare s) = secretShare s := ⟨rfl, rfl, rfl, rfl, rfl⟩

/-! ### the debug renderings do not depend on the secret scalars -/

/-- two key packages with the same public part render identically, whatever their signing shares -/
theorem debug_keyPackage_independent (k : KeyPackage F E) (s' : F) :
    debugKeyPackage { k with share := s' } = debugKeyPackage k := rfl

theorem debug_secretShare_independent (s : SecretShare F E) (x : F) :
    debugSecretShare { s with share := x } = debugSecretShare s := rfl

theorem debug_nonces_constant (n n' : SigningNonces F E) : debugNonces n = debugNonces n' := rfl

theorem debug_round1Secret_independent (p : Round1Secret F E) (cs : List F) :
    debugRound1Secret { p with coefficients := cs } = debugRound1Secret p := rfl

theorem debug_round2Secret_independent (p : Round2Secret F E) (x : F) :
    debugRound2Secret { p with secretShare := x } = debugRound2Secret p := rfl

theorem debug_scalar_constant (s s' : F) : (debugScalar s : List (String × Shown F E)) = debugScalar s' := rfl

example : secretsOfNonces (nonces (⟨3, 4, ⟨7, 8⟩⟩ : SigningNonces Int Int)) = [0, 0] := rfl
example : secretsOfRound1Secret (⟨1, [5, 6], [7, 8], 2, 3⟩ : Round1Secret Int Int) = [5, 6] ∧
    secretsOfRound1Secret (round1Secret (⟨1, [5, 6], [7, 8], 2, 3⟩ : Round1Secret Int Int)) = [] := ⟨rfl, rfl⟩

end Frost.C20

/-
  C13 — Protocol state saved between rounds resumes to the identical outcome.

  `Frost.Model.Resume` models each step continued from *stored bytes* (decode with the wire
  model, then run the step).  For a well-formed state (`ok…` below) that was encodable, the
  resumed step IS the uninterrupted step: corollaries of C12's round-trip theorems.
-/
import Frost.Props.C12
import Frost.Model.Resume
import Frost.Proofs.Steps

set_option linter.unusedSectionVars false

namespace Frost.C13
open Frost Frost.Wire Frost.Resume

variable {F E : Type}
variable [Add F] [Mul F] [Sub F] [Neg F] [Zero F] [One F] [Inv F] [DecidableEq F]
variable [Add E] [Sub E] [Neg E] [Zero E] [SMul F E] [DecidableEq E]
variable {S : Suite F E} {hdr : Bytes} {okS : F → Prop} {okE : E → Prop}

/-- decoding what was stored gives back the state (anything may follow it in the file) -/
theorem restore_encoded {α : Type} {e : Enc α} {d : Dec α} {a : α} (h : RT e d a)
    (b rest : Bytes) (hb : e a = some b) : (restore d (b ++ rest) : Outcome F α) = .ok a := by
  unfold restore deserialize
  rw [h b rest hb]

theorem restore_stored {α : Type} {e : Enc α} {d : Dec α} {a : α} (h : RT e d a) {b : Bytes}
    (hb : e a = some b) : (restore d b : Outcome F α) = .ok a :=
  b.append_nil ▸ restore_encoded h b [] hb

/-! ### well-formedness of stored values (what the codec laws quantify over) -/

def okKeyPackage (okS : F → Prop) (okE : E → Prop) (k : KeyPackage F E) : Prop :=
  k.id ≠ 0 ∧ okS k.id ∧ okS k.share ∧ okE k.vshare ∧ okE k.vk

def okSecretShare (okS : F → Prop) (okE : E → Prop) (s : SecretShare F E) : Prop :=
  s.id ≠ 0 ∧ okS s.id ∧ okS s.share ∧ (∀ e ∈ s.commitment, okE e) ∧ s.commitment.length < 2 ^ 64

def okNonces (okS : F → Prop) (okE : E → Prop) (n : SigningNonces F E) : Prop :=
  okS n.hid ∧ okS n.bnd ∧ okE n.commitments.hid ∧ okE n.commitments.bnd

def okPackage (S : Suite F E) (okS : F → Prop) (okE : E → Prop) (p : SigningPackage F E) : Prop :=
  p.commitments.Pairwise (fun a b => S.idLt a.1 b.1 = true) ∧
  (∀ kv ∈ p.commitments, okS kv.1 ∧ kv.1 ≠ 0 ∧ okE kv.2.hid ∧ okE kv.2.bnd) ∧
  p.commitments.length < 2 ^ 64 ∧ p.message.length < 2 ^ 64

def okPublicKeyPackage (S : Suite F E) (okS : F → Prop) (okE : E → Prop) (p : PublicKeyPackage F E) : Prop :=
  p.vshares.Pairwise (fun a b => S.idLt a.1 b.1 = true) ∧
  (∀ kv ∈ p.vshares, okS kv.1 ∧ kv.1 ≠ 0 ∧ okE kv.2) ∧ okE p.vk ∧ p.vshares.length < 2 ^ 64

def okRound1Secret (okS : F → Prop) (okE : E → Prop) (p : Round1Secret F E) : Prop :=
  p.id ≠ 0 ∧ okS p.id ∧ (∀ s ∈ p.coefficients, okS s) ∧ (∀ e ∈ p.commitment, okE e) ∧
  p.coefficients.length < 2 ^ 64 ∧ p.commitment.length < 2 ^ 64

def okRound2Secret (okS : F → Prop) (okE : E → Prop) (p : Round2Secret F E) : Prop :=
  p.id ≠ 0 ∧ okS p.id ∧ okS p.secretShare ∧ (∀ e ∈ p.commitment, okE e) ∧ p.commitment.length < 2 ^ 64

variable (L : BaseLaws S.toBase okS okE) (hasym : ∀ a b, S.idLt a b = true → S.idLt b a = false)
include L

theorem restore_keyPackage {k : KeyPackage F E} (hk : okKeyPackage okS okE k) {b : Bytes}
    (hb : encKeyPackage S hdr k = some b) : (restore (decKeyPackage S hdr) b : Outcome F _) = .ok k :=
  restore_stored (C12.rt_keyPackage L k hk.1 hk.2) hb

theorem restore_secretShare {s : SecretShare F E} (hs : okSecretShare okS okE s) {b : Bytes}
    (hb : encSecretShare S hdr s = some b) : (restore (decSecretShare S hdr) b : Outcome F _) = .ok s :=
  restore_stored (C12.rt_secretShare L s hs.1 ⟨hs.2.1, hs.2.2.1, hs.2.2.2.1⟩ hs.2.2.2.2) hb

theorem restore_nonces {n : SigningNonces F E} (hn : okNonces okS okE n) {b : Bytes}
    (hb : encNonces S hdr n = some b) : (restore (decNonces S hdr) b : Outcome F _) = .ok n :=
  restore_stored (C12.rt_nonces L n hn) hb

theorem restore_round1Secret {p : Round1Secret F E} (hp : okRound1Secret okS okE p) {b : Bytes}
    (hb : encRound1Secret S p = some b) : (restore (decRound1Secret S) b : Outcome F _) = .ok p :=
  restore_stored (C12.rt_round1Secret L p hp.1 ⟨hp.2.1, hp.2.2.1, hp.2.2.2.1⟩ hp.2.2.2.2.1 hp.2.2.2.2.2) hb

theorem restore_round2Secret {p : Round2Secret F E} (hp : okRound2Secret okS okE p) {b : Bytes}
    (hb : encRound2Secret S p = some b) : (restore (decRound2Secret S) b : Outcome F _) = .ok p :=
  restore_stored (C12.rt_round2Secret L p hp.1 ⟨hp.2.1, hp.2.2.1, hp.2.2.2.1⟩ hp.2.2.2.2) hb

include hasym

theorem restore_package {p : SigningPackage F E} (hp : okPackage S okS okE p) {b : Bytes}
    (hb : encPackage S hdr p = some b) : (restore (decPackage S hdr) b : Outcome F _) = .ok p :=
  restore_stored (C12.rt_package L p hasym hp.1 hp.2.1 hp.2.2.1 hp.2.2.2) hb

theorem restore_publicKeyPackage {p : PublicKeyPackage F E} (hp : okPublicKeyPackage S okS okE p)
    {b : Bytes} (hb : encPublicKeyPackage S hdr p = some b) :
    (restore (decPublicKeyPackage S hdr) b : Outcome F _) = .ok p := by
  unfold restore
  rw [C12.rt_publicKeyPackage L p hasym hp.1 hp.2.1 hp.2.2.1 hp.2.2.2 b hb]

omit hasym

/-- dealer key generation: the stored share yields the same key package (or the same error) -/
theorem resume_keyPackage (ss : SecretShare F E) (hs : okSecretShare okS okE ss) (b : Bytes)
    (hb : encSecretShare S hdr ss = some b) :
    Resume.keyPackage S hdr b = KeyPackage.tryFrom S ss := by
  unfold Resume.keyPackage; rw [restore_secretShare L hs hb]

/-- **signing after a restart**: stored nonces and stored key package -/
theorem resume_sign (n : SigningNonces F E) (kp : KeyPackage F E) (hn : okNonces okS okE n)
    (hk : okKeyPackage okS okE kp) (nb kb : Bytes) (hnb : encNonces S hdr n = some nb)
    (hkb : encKeyPackage S hdr kp = some kb) (pkg : SigningPackage F E) :
    Resume.sign S hdr nb kb pkg = Frost.sign S pkg n kp := by
  unfold Resume.sign; rw [restore_nonces L hn hnb, restore_keyPackage L hk hkb]

include hasym

theorem resume_signPkg (n : SigningNonces F E) (kp : KeyPackage F E) (pkg : SigningPackage F E)
    (hn : okNonces okS okE n) (hk : okKeyPackage okS okE kp) (hp : okPackage S okS okE pkg)
    (nb kb pb : Bytes) (hnb : encNonces S hdr n = some nb) (hkb : encKeyPackage S hdr kp = some kb)
    (hpb : encPackage S hdr pkg = some pb) :
    Resume.signPkg S hdr nb kb pb = Frost.sign S pkg n kp := by
  unfold Resume.signPkg
  rw [restore_package L hasym hp hpb]
  exact resume_sign L n kp hn hk nb kb hnb hkb pkg

/-- the coordinator after a restart -/
theorem resume_aggregate (pkp : PublicKeyPackage F E) (pkg : SigningPackage F E)
    (hq : okPublicKeyPackage S okS okE pkp) (hp : okPackage S okS okE pkg) (qb pb : Bytes)
    (hqb : encPublicKeyPackage S hdr pkp = some qb) (hpb : encPackage S hdr pkg = some pb)
    (shares : List (F × F)) :
    Resume.aggregate S hdr qb pb shares = Frost.aggregate S pkg shares pkp := by
  unfold Resume.aggregate
  rw [restore_publicKeyPackage L hasym hq hqb, restore_package L hasym hp hpb]

omit hasym

/-- **key generation, after part 1** -/
theorem resume_dkgPart2 (sp : Round1Secret F E) (hp : okRound1Secret okS okE sp) (b : Bytes)
    (hb : encRound1Secret S sp = some b) (round1 : List (F × Round1Package F E)) :
    Resume.dkgPart2 S b round1 = Frost.dkgPart2 S sp round1 := by
  unfold Resume.dkgPart2; rw [restore_round1Secret L hp hb]

/-- **key generation, after part 2** -/
theorem resume_dkgPart3 (sp : Round2Secret F E) (hp : okRound2Secret okS okE sp) (b : Bytes)
    (hb : encRound2Secret S sp = some b) (round1 : List (F × Round1Package F E))
    (round2 : List (F × F)) :
    Resume.dkgPart3 S b round1 round2 = Frost.dkgPart3 S sp round1 round2 := by
  unfold Resume.dkgPart3; rw [restore_round2Secret L hp hb]

/-- **distributed refresh, after part 1** -/
theorem resume_refreshDkgPart2 (sp : Round1Secret F E) (hp : okRound1Secret okS okE sp) (b : Bytes)
    (hb : encRound1Secret S sp = some b) (round1 : List (F × Round1Package F E)) :
    Resume.refreshDkgPart2 S b round1 = Frost.refreshDkgPart2 sp round1 := by
  unfold Resume.refreshDkgPart2; rw [restore_round1Secret L hp hb]

include hasym

/-- **distributed refresh, after part 2**, with the stored old key material -/
theorem resume_refreshDkgShares (sp : Round2Secret F E) (pkp : PublicKeyPackage F E)
    (kp : KeyPackage F E) (hp : okRound2Secret okS okE sp) (hq : okPublicKeyPackage S okS okE pkp)
    (hk : okKeyPackage okS okE kp) (sb qb kb : Bytes) (hsb : encRound2Secret S sp = some sb)
    (hqb : encPublicKeyPackage S hdr pkp = some qb) (hkb : encKeyPackage S hdr kp = some kb)
    (round1 : List (F × Round1Package F E)) (round2 : List (F × F)) :
    Resume.refreshDkgShares S hdr sb qb kb round1 round2 =
      Frost.refreshDkgShares S sp round1 round2 pkp kp := by
  unfold Resume.refreshDkgShares
  rw [restore_round2Secret L hp hsb, restore_publicKeyPackage L hasym hq hqb,
    restore_keyPackage L hk hkb]

omit hasym

/-- **dealer refresh** -/
theorem resume_refreshShare (ss : SecretShare F E) (kp : KeyPackage F E)
    (hs : okSecretShare okS okE ss) (hk : okKeyPackage okS okE kp) (sb kb : Bytes)
    (hsb : encSecretShare S hdr ss = some sb) (hkb : encKeyPackage S hdr kp = some kb) :
    Resume.refreshShare S hdr sb kb = Frost.refreshShare S ss kp := by
  unfold Resume.refreshShare
  rw [restore_secretShare L hs hsb, restore_keyPackage L hk hkb]

/-- **repair**: a helper working from its stored key package… -/
theorem resume_repairPart1 (kp : KeyPackage F E) (hk : okKeyPackage okS okE kp) (kb : Bytes)
    (hkb : encKeyPackage S hdr kp = some kb) (helpers : List F) (t : Tape) (participant : F) :
    Resume.repairPart1 S hdr kb helpers t participant = repairSharePart1 S helpers kp t participant := by
  unfold Resume.repairPart1; rw [restore_keyPackage L hk hkb]

include hasym

/-- …and the participant rebuilding its key package from the stored public key package -/
theorem resume_repairPart3 (pkp : PublicKeyPackage F E) (hq : okPublicKeyPackage S okS okE pkp)
    (qb : Bytes) (hqb : encPublicKeyPackage S hdr pkp = some qb) (sigmas : List F) (id : F) :
    Resume.repairPart3 S hdr qb sigmas id = repairSharePart3 S sigmas id pkp := by
  unfold Resume.repairPart3; rw [restore_publicKeyPackage L hasym hq hqb]

omit hasym L

/-- `dkg::part1` stores: own identifier, the whole polynomial, its commitment (one entry per
    coefficient, entry `k` = `a_k • G`) and the two sizes -/
theorem part1_state (id : F) (n t : Nat) (tape : Tape) (sp : Round1Secret F E)
    (pkg : Round1Package F E) (t' : Tape) (h : dkgPart1 S id n t tape = .ok ((sp, pkg), t')) :
    sp.id = id ∧ sp.minSigners = t ∧ sp.maxSigners = n ∧ pkg.commitment = sp.commitment ∧
    sp.commitment = sp.coefficients.map (fun c => c • S.G) ∧ sp.coefficients.length = t := by
  obtain ⟨secret, t1, coeffs, t2, pok, h2, _, hlen, _, _, _, hout⟩ := dkgPart1_ok h
  cases hout
  exact ⟨rfl, rfl, rfl, rfl, rfl, (congrArg (· + 1) hlen).trans (Nat.sub_add_cancel (Nat.le_of_lt h2))⟩

/-- `dkg::part2` stores the same identifier, commitment and sizes, plus its own share -/
theorem part2_state (sp : Round1Secret F E) (round1 : List (F × Round1Package F E))
    (sp2 : Round2Secret F E) (r2 : List (F × F)) (h : dkgPart2 S sp round1 = .ok (sp2, r2)) :
    sp2.id = sp.id ∧ sp2.commitment = sp.commitment ∧ sp2.minSigners = sp.minSigners ∧
    sp2.maxSigners = sp.maxSigners ∧ evaluatePolynomial sp.id sp.coefficients = .ok sp2.secretShare := by
  obtain ⟨_, _, _, _, _, fii, he, rfl⟩ := dkgPart2_ok h
  exact ⟨rfl, rfl, rfl, rfl, he⟩

/-- `refresh_dkg_part1` stores the polynomial (constant term zero) and its commitment
    **without the first entry** (the identity, which no suite can serialise): this is what
    keeps the stored package encodable -/
theorem refreshPart1_state (id : F) (n t : Nat) (tape : Tape) (sp : Round1Secret F E)
    (pkg : Round1Package F E) (t' : Tape) (h : refreshDkgPart1 S id n t tape = .ok ((sp, pkg), t')) :
    sp.id = id ∧ sp.minSigners = t ∧ sp.maxSigners = n ∧ pkg.commitment = sp.commitment ∧
    sp.coefficients.head? = some 0 ∧
    sp.commitment = sp.coefficients.tail.map (fun c => c • S.G) := by
  obtain ⟨coeffs, t1, pok, _, _, _, _, _, hout⟩ := refreshDkgPart1_ok h
  cases hout
  exact ⟨rfl, rfl, rfl, rfl, rfl, rfl⟩

/-- in particular the stored commitment is one shorter than the polynomial -/
theorem refreshPart1_commitment_stripped (id : F) (n t : Nat) (tape : Tape) (sp : Round1Secret F E)
    (pkg : Round1Package F E) (t' : Tape) (h : refreshDkgPart1 S id n t tape = .ok ((sp, pkg), t')) :
    sp.commitment.length + 1 = sp.coefficients.length := by
  obtain ⟨coeffs, t1, pok, _, _, _, _, _, hout⟩ := refreshDkgPart1_ok h
  cases hout
  exact congrArg (· + 1) (List.length_map _)

/-! ### non-vacuity: a concrete stored key package of the toy suite meets every premise -/

open Frost.Ref in
example : ∃ kb, encKeyPackage toy31 [0, 1, 2, 3, 4] (⟨⟨5⟩, ⟨77⟩, ⟨12⟩, ⟨99⟩, 3⟩ : KeyPackage (Fq q31) (Gq q31)) = some kb ∧
    ∀ helpers t p, Resume.repairPart1 toy31 [0, 1, 2, 3, 4] kb helpers t p =
      repairSharePart1 toy31 helpers ⟨⟨5⟩, ⟨77⟩, ⟨12⟩, ⟨99⟩, 3⟩ t p := by
  refine ⟨_, rfl, fun helpers t p => ?_⟩
  exact resume_repairPart1 toy31_laws _
    ⟨by decide, by unfold okS31; decide, by unfold okS31; decide, by unfold okE31; decide, by unfold okE31; decide⟩
    _ rfl helpers t p

end Frost.C13

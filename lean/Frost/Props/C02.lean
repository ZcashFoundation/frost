/-
  C02 — Every intermediate and final value is bit-exact with RFC 9591.

  `Frost.Spec` transcribes the RFC's pseudocode as directly as Lean allows (plain left folds
  over the commitment list, `group_commitment` as a running sum from the identity with one
  scalar multiplication per participant, the interpolating value as numerator/denominator
  products, the share formula, the aggregate as a sum).  The theorems state that the model —
  which iterates sorted maps, batches the scalar multiplications into one multiscalar
  multiplication, tracks a found-flag, etc. — returns exactly the spec's values.
-/
import Frost.Proofs.Honest
import Frost.Proofs.NafValue
import Frost.Props.C15

set_option linter.unusedSectionVars false

namespace Frost.Spec

variable {F E : Type} [Field F] [DecidableEq F] [AddCommGroup E] [Module F E] [DecidableEq E]

/-- RFC 9591 §4.3 `encode_group_commitment_list`, on already-serialised triples -/
def encodeGroupCommitmentList (l : List (Bytes × Bytes × Bytes)) : Bytes :=
  l.foldl (fun encoded t => encoded ++ (t.1 ++ t.2.1 ++ t.2.2)) []

/-- RFC 9591 §4.4 `compute_binding_factors`: `rho_input = key_enc ‖ H4(msg) ‖ H5(encoded list) ‖
    SerializeScalar(identifier)`, `binding_factor = H1(rho_input)` -/
def computeBindingFactors (S : Suite F E) (keyEnc : Bytes) (encodedList : Bytes) (msg : Bytes)
    (ids : List F) : List (F × F) :=
  let prefix' := keyEnc ++ S.H4 msg ++ S.H5 encodedList
  ids.map fun i => (i, S.H1 (prefix' ++ S.encScalar i))

/-- RFC 9591 §4.5 `compute_group_commitment`: start from the identity; for every participant
    add the hiding commitment and `ScalarMult(binding_commitment, binding_factor)` -/
def computeGroupCommitment (l : List (E × E × F)) : E :=
  l.foldl (fun gc t => gc + t.1 + t.2.2 • t.2.1) 0

/-- RFC 9591 §4.6 `compute_challenge` -/
def computeChallenge (S : Suite F E) (rEnc keyEnc msg : Bytes) : F := S.H2 (rEnc ++ keyEnc ++ msg)

/-- RFC 9591 §4.2 `derive_interpolating_value(L, x_i)`: numerator `Π x_j`, denominator
    `Π (x_j − x_i)` over `x_j ≠ x_i` -/
def deriveInterpolatingValue (L : List F) (xi : F) : F :=
  ((L.filter (· ≠ xi)).prod) / (((L.filter (· ≠ xi)).map fun xj => xj - xi).prod)

/-- RFC 9591 §5.2 `sign`: `sig_share = hiding_nonce + binding_nonce·binding_factor + λ_i·sk_i·challenge` -/
def sigShare (hidingNonce bindingNonce bindingFactor lambda sk challenge : F) : F :=
  hidingNonce + (bindingNonce * bindingFactor) + (lambda * sk * challenge)

/-- RFC 9591 §5.3 `aggregate`: `z = Σ z_i` -/
def aggregateZ (shares : List F) : F := shares.foldl (fun z s => z + s) 0

end Frost.Spec

namespace Frost.C02
open Frost Frost.SignSession

variable {F E : Type} [Field F] [DecidableEq F] [AddCommGroup E] [Module F E] [DecidableEq E]

theorem spec_encode_cons (t : Bytes × Bytes × Bytes) (l : List (Bytes × Bytes × Bytes)) :
    Spec.encodeGroupCommitmentList (t :: l) =
      t.1 ++ t.2.1 ++ t.2.2 ++ Spec.encodeGroupCommitmentList l := by
  simp only [Spec.encodeGroupCommitmentList, ← List.flatMap_eq_foldl, List.flatMap_cons]

/-- **The model's commitment-list encoding is the RFC's** (whenever every commitment is
    encodable, with the same encodings, in the same — ascending-identifier — order). -/
theorem encodeGroupCommitments_refines (S : Suite F E) (cs : List (F × SigningCommitments E))
    (b : Bytes) (h : encodeGroupCommitments S cs = .ok b) :
    ∃ triples : List (Bytes × Bytes × Bytes),
      triples.length = cs.length ∧
      (∀ k (hk : k < cs.length) (hk' : k < triples.length),
        triples[k].1 = S.encScalar cs[k].1 ∧ S.encElem cs[k].2.hid = some triples[k].2.1 ∧
        S.encElem cs[k].2.bnd = some triples[k].2.2) ∧
      b = Spec.encodeGroupCommitmentList triples := by
  induction cs generalizing b with
  | nil =>
    cases h
    exact ⟨[], rfl, fun k hk => absurd hk (Nat.not_lt_zero k), rfl⟩
  | cons a r ih =>
    obtain ⟨x, y, z, hx, hy, hz, rfl⟩ := encodeGroupCommitments_cons_eq_ok.mp h
    obtain ⟨tr, hl, hk, rfl⟩ := ih z hz
    refine ⟨(S.encScalar a.1, x, y) :: tr, congrArg (· + 1) hl, ?_, ?_⟩
    · intro k hk1 hk2
      cases k with
      | zero => exact ⟨rfl, hx, hy⟩
      | succ k => exact hk k (Nat.lt_of_succ_lt_succ hk1) (Nat.lt_of_succ_lt_succ hk2)
    · rw [spec_encode_cons]

/-- **Binding factors are the RFC's**: same preimage layout `key ‖ H4(msg) ‖ H5(list) ‖ id`,
    one factor per participant in package order. -/
theorem bindingFactors_refine (S : Suite F E) (pkg : SigningPackage F E) (vk : E) (vkb enc : Bytes)
    (hv : S.encElem vk = some vkb) (he : encodeGroupCommitments S pkg.commitments = .ok enc) :
    computeBindingFactorList S pkg vk [] =
      .ok (Spec.computeBindingFactors S vkb enc pkg.message (SMap.keys pkg.commitments)) := by
  unfold computeBindingFactorList bindingFactorPreimages Base.encElemO
  simp only [hv, Outcome.ofOption, he, List.append_nil, List.map_map]
  unfold Spec.computeBindingFactors SMap.keys
  simp [List.map_map, Function.comp_def]

/-- **The group commitment is the RFC's**: the model's "sum of hiding commitments plus one
    multiscalar multiplication" equals the RFC's running sum with one `ScalarMult` per
    participant. -/
theorem groupCommitment_refines (S : Suite F E) (hmsm : MsmSound (E := E) S.leBytes)
    (pkg : SigningPackage F E) (bfl : List (F × F)) (R : E)
    (h : Frost.computeGroupCommitment S pkg bfl = .ok R) :
    R = Spec.computeGroupCommitment
      (pkg.commitments.map fun c => (c.2.hid, c.2.bnd, rhoAt bfl c.1)) := by
  rw [(computeGroupCommitment_eq h).2 hmsm]
  simp only [Spec.computeGroupCommitment, List.sum_eq_foldl, List.foldl_map, add_assoc]

/-- the same with the multiscalar hypothesis discharged: only the encoding law of
    `little_endian_serialize` is assumed (`msmSound_of_leSound`) -/
theorem groupCommitment_refines' (S : Suite F E) (hle : LeSound S.leBytes)
    (pkg : SigningPackage F E) (bfl : List (F × F)) (R : E)
    (h : Frost.computeGroupCommitment S pkg bfl = .ok R) :
    R = Spec.computeGroupCommitment
      (pkg.commitments.map fun c => (c.2.hid, c.2.bnd, rhoAt bfl c.1)) :=
  groupCommitment_refines S (msmSound_of_leSound S.leBytes hle) pkg bfl R h

/-- **The interpolating value is the RFC's** `Π x_j / Π (x_j − x_i)`. -/
theorem interpolatingValue_refines (L : List F) (xi : F) (hmem : xi ∈ L) :
    computeLagrangeCoefficient L none xi = .ok (Spec.deriveInterpolatingValue L xi) := by
  -- `compute_lagrange_coefficient` returns `Π (0 − x_j)/(x_i − x_j)`: flip both signs in every factor
  have hq := prod_map_mul_inv (L.filter (· ≠ xi)) (fun xj => xj) (fun xj => xj - xi)
  rw [List.map_id'] at hq
  rw [computeLagrangeCoefficient_eq L none xi hmem, Spec.deriveInterpolatingValue, div_eq_mul_inv,
    hq, lagBasis]
  congr 3
  funext xj
  rw [Option.getD_none, zero_sub, ← neg_sub xj xi, inv_neg, neg_mul_neg]

/-- **The signature share is the RFC's formula** on the RFC's binding factor, interpolating
    value and challenge (plain suites). -/
theorem sigShare_refines (B : Base F E) (X : SignSession F E) (h : X.Ok B) (i : F) (hi : i ∈ X.ids)
    (s : F → F) (Y : E) (m : Nat) (hm : m ≤ X.ids.length) :
    sign (Suite.ofBase B) (X.pkg B) (X.nonces B i) ⟨i, s i, Y, X.vk, m⟩ =
      .ok (Spec.sigShare (X.d i) (X.e i) (X.rho i) (X.lam i) (s i) X.c) := by
  have := sign_eq (okS_of_ok h) i hi s Y m hm
  rwa [honestS_one] at this

/-- the challenge is the RFC's `H2(enc(R) ‖ enc(PK) ‖ msg)` -/
theorem challenge_refines (B : Base F E) (R vk : E) (rb vb msg : Bytes)
    (hr : B.encElem R = some rb) (hv : B.encElem vk = some vb) :
    B.defaultChallenge R vk msg = .ok (Spec.computeChallenge (Suite.ofBase B) rb vb msg) := by
  unfold Base.defaultChallenge Base.encElemO
  simp [hr, hv, Outcome.ofOption, Spec.computeChallenge]

/-- **Aggregation returns `(R, Σ zᵢ)`** — the RFC's `aggregate` — whenever it returns. -/
theorem aggregate_refines (B : Base F E) (X : SignSession F E) (h : X.Ok B) (Y : F → E)
    (z : F → F) (pkp : PublicKeyPackage F E) (hvk : pkp.vk = X.vk)
    (hvs : ∀ i ∈ X.ids, SMap.get? pkp.vshares i = some (Y i))
    (hmin : ∀ m, pkp.minSigners = some m → m ≤ X.ids.length) (mode : CheaterDetection)
    (σ : Signature F E)
    (hok : aggregateCustom (Suite.ofBase B) (X.pkg B) (X.sharesMap z) pkp mode = .ok σ) :
    σ = ⟨X.R, Spec.aggregateZ (X.ids.map z)⟩ := by
  have := hok.symm.trans (aggregate_eq (okS_of_ok h) Y z pkp hvk hvs hmin mode)
  split at this
  · cases this
    rw [Spec.aggregateZ, ← List.sum_eq_foldl]
  · cases this

/-- identifiers are the RFC's integer-to-scalar encoding of the participant number -/
theorem identifier_refines (n : Nat) (hn : 0 < n) (hF : (n : F) ≠ 0) :
    (identifierOfNat n : Outcome F F) = .ok (n : F) := identifierOfNat_eq n hn hF

/-- nonces are the RFC's `nonce_generate`: `H3(random_bytes(32) ‖ SerializeScalar(secret))` -/
theorem nonce_refines (S : Suite F E) (share : F) (r rest : Bytes) (hr : r.length = 32) :
    nonceNew S share (r ++ rest) = some (S.H3 (r ++ S.encScalar share), rest) :=
  C15.nonceNew_eq S share r rest hr

/-- the serialised signature is `SerializeElement(R) ‖ SerializeScalar(z)` -/
theorem signature_encoding (B : Base F E) (σ : Signature F E) (rb : Bytes)
    (hr : B.encElem σ.R = some rb) :
    B.defaultSerializeSignature σ = .ok (rb ++ B.encScalar σ.z) := by
  unfold Base.defaultSerializeSignature Base.encElemO
  simp [hr, Outcome.ofOption]

/-! Non-vacuity: the RFC's interpolating value on `L = {1,2,3}`, `x_i = 1` over ℚ is `3`. -/
example : Spec.deriveInterpolatingValue ([1, 2, 3] : List ℚ) 1 = 3 := by
  norm_num [Spec.deriveInterpolatingValue]

end Frost.C02

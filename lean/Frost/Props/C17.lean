/-
  C17 — Re-randomized signing verifies only under the session-bound randomized key.
-/
import Frost.Proofs.Honest
import Frost.Model.RerandPkg
import Frost.Proofs.Wire

set_option linter.unusedSectionVars false

namespace Frost.C17
open Frost Frost.SignSession

variable {F E : Type} [Field F] [DecidableEq F] [AddCommGroup E] [Module F E] [DecidableEq E]

theorem newFromCommitments_ok {S : Suite F E} {vk : E} {comms : List (F × SigningCommitments E)}
    {t t' : Tape} {p : RandomizedParams F E} {seed : Bytes}
    (h : RandomizedParams.newFromCommitments S vk comms t = .ok ((p, seed), t')) :
    t.draw (S.encScalar 0).length = some (seed, t') ∧
      RandomizedParams.regenerate S vk seed comms = .ok p := by
  unfold RandomizedParams.newFromCommitments randomizerNewFromCommitments at h
  unfold RandomizedParams.regenerate
  split at h
  · rename_i r seed' t1 hn
    cases h
    split at hn
    · cases hn
    · rename_i hd
      split at hn
      · rename_i hr
        cases hn
        exact ⟨hd, by rw [hr]⟩
      · cases hn
      · cases hn
  · cases h
  · cases h

/-- **The participants' regenerated parameters equal the coordinator's**: whatever
    `new_from_commitments` returned together with the seed is what
    `regenerate_from_seed_and_commitments` computes from that seed and the same commitments. -/
theorem regenerate_eq (S : Suite F E) (vk : E) (comms : List (F × SigningCommitments E))
    (t t' : Tape) (p : RandomizedParams F E) (seed : Bytes)
    (h : RandomizedParams.newFromCommitments S vk comms t = .ok ((p, seed), t')) :
    RandomizedParams.regenerate S vk seed comms = .ok p :=
  (newFromCommitments_ok h).2

/-- the seed is exactly one draw of scalar length from the caller's source -/
theorem seed_is_one_draw (S : Suite F E) (vk : E) (comms : List (F × SigningCommitments E))
    (t t' : Tape) (p : RandomizedParams F E) (seed : Bytes)
    (h : RandomizedParams.newFromCommitments S vk comms t = .ok ((p, seed), t')) :
    t.draw (S.encScalar 0).length = some (seed, t') :=
  (newFromCommitments_ok h).1

/-- randomisation shifts a key package by the randomizer and keeps identifier and threshold -/
theorem randomize_keyPackage (S : Suite F E) (kp : KeyPackage F E) (vk : E) (α : F) :
    kp.randomize (RandomizedParams.fromRandomizer S vk α) =
      ⟨kp.id, kp.share + α, kp.vshare + α • S.G, vk + α • S.G, kp.minSigners⟩ := rfl

theorem randomize_publicKeyPackage (S : Suite F E) (pkp : PublicKeyPackage F E) (vk : E) (α : F) :
    pkp.randomize (RandomizedParams.fromRandomizer S vk α) =
      ⟨pkp.vshares.map fun iy => (iy.1, iy.2 + α • S.G), vk + α • S.G, pkp.minSigners⟩ := rfl

/-- **Signing and aggregation with randomized keys succeed for any valid signer set and
    any randomizer (zero included)**: the shares `f(i) + α` interpolate to `f(0) + α`
    (the basis values sum to one), so the aggregate of the honest signature shares is
    released — and is valid under the randomized key `vk + α•G` by C04 — in every mode.
    `X.vk` is the randomized key (the session's hash-derived values are computed with it). -/
theorem randomized_sign_ok (B : Base F E) (X : SignSession F E) (h : X.Ok B) (hG : B.G ≠ 0)
    (hcof : B.cofactor ≠ 0) (hne : X.ids ≠ []) (f : List F) (hf : f.length ≤ X.ids.length) (α : F)
    (vk : E) (hvk0 : vk = hornerR f 0 • B.G) (hvk : X.vk = vk + α • B.G)
    (pkp : PublicKeyPackage F E) (hpvk : pkp.vk = vk)
    (hvs : ∀ i ∈ X.ids, SMap.get? pkp.vshares i = some (hornerR f i • B.G))
    (hmin : ∀ m, pkp.minSigners = some m → m ≤ X.ids.length) (mode : CheaterDetection) :
    ∃ σ, aggregateRandomized (Suite.ofBase B) (X.pkg B)
      (X.sharesMap (X.honest fun i => hornerR f i + α)) pkp mode
      (RandomizedParams.fromRandomizer (Suite.ofBase B) vk α) = .ok σ := by
  have hkey : (X.ids.map fun i => X.lam i * (hornerR f i + α)).sum • B.G = X.vk := by
    have h1 : (X.ids.map fun i => X.lam i).sum = 1 := lagBasis_sum_one X.ids h.nodup hne 0
    simp only [mul_add, List.sum_map_add, List.sum_map_mul_right]
    rw [lam_sum h.nodup f hf, h1, one_mul, add_smul, hvk, hvk0]
  exact ⟨_, aggregate_honest h _ hkey
    (pkp.randomize (RandomizedParams.fromRandomizer (Suite.ofBase B) vk α)) hvk.symm
    (fun i hi => (SMap.get?_map_snd pkp.vshares (· + α • B.G) i).trans (by rw [hvs i hi, add_smul]; rfl))
    hmin mode⟩

/-- **Under the original key**: a signature `(R, z)` that satisfies the verification equation
    under the randomized key `(s + α)•G` with challenge `c` satisfies it under the original
    key `s•G` with that key's challenge `c'` iff `c·(s + α) = c'·s` — for `α ≠ 0` a
    coincidence between two hash values. -/
theorem original_key_iff (B : Base F E) (hG : B.G ≠ 0) (hcof : B.cofactor ≠ 0) (s α c c' z : F)
    (R : E) (hvalid : z • B.G = R + c • ((s + α) • B.G)) :
    B.verifyPrehashed (s • B.G) c' ⟨R, z⟩ = .ok () ↔ c * (s + α) = c' * s := by
  rw [Base.verifyPrehashed_eq_ok hcof]
  exact other_key_iff hG s (s + α) c c' z R hvalid

/-- **The randomizer is a function of the seed and of the exact commitment set**: its hash
    preimage is `seed ‖ encode(commitments)`; for seeds of equal length the preimage
    determines both parts (see DESIGN.md O-3 for variable-length seeds). -/
theorem randomizerPreimage_injective (seed seed' enc enc' : Bytes)
    (hlen : seed.length = seed'.length) (h : seed ++ enc = seed' ++ enc') :
    seed = seed' ∧ enc = enc' :=
  List.append_inj h hlen

theorem randomizer_eq (S : Suite F E) (seed : Bytes) (comms : List (F × SigningCommitments E))
    (enc : Bytes) (he : encodeGroupCommitments S comms = .ok enc) :
    randomizerRegenerate S seed comms = Outcome.ofOption (S.Hrand (seed ++ enc)) .SerializationError := by
  unfold randomizerRegenerate; simp [he]

/-! ### the deprecated package-based coordinator entry point -/

/-- `Randomizer::new(rng, &signing_package)`: the hash preimage is the encoding of the fresh
    scalar followed by the postcard serialization of the whole signing package. -/
theorem packageRandomizer_eq (S : Suite F E) (hdr : Bytes) (r0 : F) (pkg : SigningPackage F E)
    (b : Bytes) (hb : Wire.encPackage S hdr pkg = some b) :
    randomizerFromScalarAndPackage S hdr r0 pkg
      = Outcome.ofOption (S.Hrand (S.encScalar r0 ++ b)) .SerializationError := by
  unfold randomizerFromScalarAndPackage; simp [hb]

/-- **…and that preimage determines the coordinator scalar's encoding, the exact commitment set
    and the message**: two well-formed signing packages (what `SigningPackage::new` builds from
    commitments the decoders accept) whose preimages coincide are the same package.  Rests on the
    round-trip law of the wire format (`Wire.rt_package`). -/
theorem packagePreimage_injective (S : Suite F E) (hdr : Bytes) {okS : F → Prop} {okE : E → Prop}
    (L : Wire.BaseLaws S.toBase okS okE) (r0 r0' : F) (p p' : SigningPackage F E) (b b' : Bytes)
    (hp : ∀ kv ∈ p.commitments, okS kv.1 ∧ kv.1 ≠ 0 ∧ okE kv.2.hid ∧ okE kv.2.bnd)
    (hp' : ∀ kv ∈ p'.commitments, okS kv.1 ∧ kv.1 ≠ 0 ∧ okE kv.2.hid ∧ okE kv.2.bnd)
    (hs : SMap.ofList S.idLt p.commitments = p.commitments)
    (hs' : SMap.ofList S.idLt p'.commitments = p'.commitments)
    (hn : p.commitments.length < 2 ^ 64) (hm : p.message.length < 2 ^ 64)
    (hn' : p'.commitments.length < 2 ^ 64) (hm' : p'.message.length < 2 ^ 64)
    (hb : Wire.encPackage S hdr p = some b) (hb' : Wire.encPackage S hdr p' = some b')
    (h : S.encScalar r0 ++ b = S.encScalar r0' ++ b') :
    S.encScalar r0 = S.encScalar r0' ∧ p = p' := by
  have hl : (S.encScalar r0).length = (S.encScalar r0').length := by
    rw [L.scalar_len, L.scalar_len]
  obtain ⟨h1, h2⟩ := List.append_inj h hl
  refine ⟨h1, ?_⟩
  have d := Wire.rt_package (hdr := hdr) L p hp hs hn hm b [] hb
  have d' := Wire.rt_package (hdr := hdr) L p' hp' hs' hn' hm' b' [] hb'
  rw [h2, d'] at d
  simpa using d.symm

/-! Non-vacuity (ℚ, `G = 1`): a signature valid under the randomized key `(2+3)•G` with
    `c = 1` (`z = R + 5`) verifies under the original key iff `5 = c'·2`. -/
example : ((7 : ℚ) + 5) • (1 : ℚ) = (7 : ℚ) + (1 : ℚ) • (((2 : ℚ) + 3) • (1 : ℚ)) := by norm_num

end Frost.C17

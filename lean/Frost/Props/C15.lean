/-
  C15 — Signing nonces are fresh, hedged, and derived exactly as the RFC prescribes.
-/
import Frost.Proofs.Basic
import Frost.Proofs.Steps

set_option linter.unusedSectionVars false

namespace Frost.C15
open Frost

variable {F E : Type} [Field F] [DecidableEq F] [AddCommGroup E] [Module F E] [DecidableEq E]

/-- `Nonce::new` draws exactly 32 bytes and returns `H3(bytes ‖ enc(share))`. -/
theorem nonceNew_eq (S : Suite F E) (share : F) (r rest : Bytes) (hr : r.length = 32) :
    nonceNew S share (r ++ rest) = some (S.H3 (r ++ S.encScalar share), rest) := by
  unfold nonceNew
  rw [← hr, Tape.draw_append]

/-- the nonce pair built from two 32-byte draws -/
def noncePair (S : Suite F E) (share : F) (r1 r2 : Bytes) : SigningNonces F E :=
  signingNoncesFromNonces S (S.H3 (r1 ++ S.encScalar share)) (S.H3 (r2 ++ S.encScalar share))

theorem signingNoncesNew_eq (S : Suite F E) (share : F) (r1 r2 rest : Bytes)
    (h1 : r1.length = 32) (h2 : r2.length = 32) :
    signingNoncesNew S share (r1 ++ (r2 ++ rest)) = some (noncePair S share r1 r2, rest) := by
  unfold signingNoncesNew
  rw [nonceNew_eq S share r1 _ h1]
  simp only
  rw [nonceNew_eq S share r2 _ h2]
  rfl

/-- **Each commitment round draws 32 new bytes for the hiding nonce and 32 further bytes for
    the binding nonce**; each nonce is the RFC's `H3(random_bytes ‖ SerializeScalar(share))`
    and the published commitments are the generator times the nonces. -/
theorem commit_draws (S : Suite F E) (share : F) (r1 r2 rest : Bytes)
    (h1 : r1.length = 32) (h2 : r2.length = 32) :
    commit S share (r1 ++ r2 ++ rest) = .ok (noncePair S share r1 r2, rest) ∧
    (noncePair S share r1 r2).commitments =
      ⟨(noncePair S share r1 r2).hid • S.G, (noncePair S share r1 r2).bnd • S.G⟩ := by
  constructor
  · unfold commit preprocess
    rw [List.append_assoc, signingNoncesNew_eq S share r1 r2 rest h1 h2]
    simp [preprocess]
  · rfl

/-- **A batch of `k` pre-processed commitments consumes `k` independent pairs**: pair `j`
    uses exactly the `j`-th 64-byte block of the tape, whatever the other blocks are
    (frame property). -/
theorem preprocess_draws (S : Suite F E) (share : F) (blocks : List (Bytes × Bytes)) (rest : Bytes)
    (hb : ∀ b ∈ blocks, b.1.length = 32 ∧ b.2.length = 32) :
    preprocess S share blocks.length ((blocks.map fun b => b.1 ++ b.2).flatten ++ rest) =
      some (blocks.map fun b => noncePair S share b.1 b.2, rest) := by
  induction blocks with
  | nil => rfl
  | cons b bs ih =>
    obtain ⟨h1, h2⟩ := hb b (by simp)
    simp only [List.length_cons, List.map_cons, List.flatten_cons, List.append_assoc]
    unfold preprocess
    rw [signingNoncesNew_eq S share b.1 b.2 _ h1 h2]
    simp only
    rw [ih (fun x hx => hb x (by simp [hx]))]

/-- exhaustion: a tape shorter than 32 bytes cannot produce a nonce pair (the case of 32 to 63
    bytes, where the second draw fails, is not stated) -/
theorem commit_needs_64 (S : Suite F E) (share : F) (t : Tape) (h : t.length < 32) :
    signingNoncesNew S share t = none := by
  unfold signingNoncesNew nonceNew Tape.draw
  have : ¬ 32 ≤ t.length := by omega
  simp [this]

/-- **Nonces differ whenever the random bytes or the (encoded) share differ**: the `H3`
    preimage `random ‖ enc(share)` determines both parts (32-byte random part). -/
theorem noncePreimage_injective (r r' e e' : Bytes) (hr : r.length = 32) (hr' : r'.length = 32)
    (h : r ++ e = r' ++ e') : r = r' ∧ e = e' :=
  List.append_inj h (by rw [hr, hr'])

/-- a non-zero nonce never commits to the identity -/
theorem commitment_nonzero_of_nonce_nonzero (G : E) (hG : G ≠ 0) (d : F) (hd : d ≠ 0) :
    d • G ≠ 0 :=
  smul_ne_zero hd hG

/-! Non-vacuity: a 64-byte tape splits into two 32-byte draws. -/
example : (List.replicate 32 (1 : UInt8)).length = 32 ∧ (List.replicate 32 (2 : UInt8)).length = 32 :=
  ⟨List.length_replicate, List.length_replicate⟩

end Frost.C15

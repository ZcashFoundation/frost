/-
  C11 — Share repair returns exactly the lost share and needs a threshold of helpers.

  Model: Frost.Model.Repair (`repair_share_part1/2/3`, `compute_last_random_value`)
  and `compute_lagrange_coefficient` (Frost.Model.Poly).
  The theorems hold for every field `F`, every `F`-module `E`, every suite
  (generator, hashes, identifier order), every group size, every helper list and
  every repaired identifier — no bound on any size.
-/
import Frost.Proofs.Basic
import Frost.Proofs.Lagrange
import Frost.Proofs.Maps
import Frost.Proofs.Steps

set_option linter.unusedSectionVars false

namespace Frost.C11
open Frost

variable {F E : Type} [Field F] [DecidableEq F] [AddCommGroup E] [Module F E] [DecidableEq E]

/-- `compute_lagrange_coefficient(x_set, Some(x)/None, x_i)` returns the Lagrange basis
    value `ℓ_{x_i}(x)` over the set (`None` = evaluation at 0), for every set that
    contains `x_i`. -/
theorem lagrange_coeff_spec (xs : List F) (x : Option F) (xi : F) (hmem : xi ∈ xs) :
    computeLagrangeCoefficient xs x xi = .ok (lagBasis xs (x.getD 0) xi) :=
  computeLagrangeCoefficient_eq xs x xi hmem

/-- `compute_last_random_value` over distinct helpers `H` containing the caller, with one random
    value fewer than helpers: every helper but the last is paired with a random value, the last
    one gets what is missing to `ζ · share`. -/
theorem computeLastRandomValue_spec (S : Suite F E) (H : List F) (hnd : H.Nodup)
    (kp : KeyPackage F E) (rand : List F) (p : F) (out : List (F × F)) (hself : kp.id ∈ H)
    (hlen : rand.length + 1 = H.length)
    (h : computeLastRandomValue S H kp rand p = .ok out) :
    (SMap.values out).sum = lagBasis H p kp.id * kp.share ∧ (SMap.keys out).Perm H := by
  unfold computeLastRandomValue at h
  rw [computeLagrangeCoefficient_eq H (some p) kp.id hself] at h
  -- `H = A ++ [last]`, and the zip with `rand` only reaches `A`
  obtain ⟨A, last, rfl⟩ : ∃ A last, H = A ++ [last] :=
    ⟨H.dropLast, H.getLast (List.ne_nil_of_mem hself),
      (List.dropLast_append_getLast (List.ne_nil_of_mem hself)).symm⟩
  have hAlen : A.length = rand.length := by simpa using hlen.symm
  have hzip : (A ++ [last]).zip rand = A.zip rand := by
    simpa using List.zip_append (l₁ := A) (l₂ := rand) (r₁ := [last]) (r₂ := []) hAlen
  have hkz : SMap.keys (A.zip rand) = A := List.map_fst_zip hAlen.le
  have hvz : SMap.values (A.zip rand) = rand := List.map_snd_zip hAlen.ge
  obtain ⟨hAnd, hlast⟩ : A.Nodup ∧ last ∉ A := by
    have := List.nodup_append.mp hnd
    exact ⟨this.1, fun hm => this.2.2 last hm last List.mem_cons_self rfl⟩
  simp only [Option.getD_some, List.getLast?_append, List.getLast?_singleton, Option.some_or,
    hzip, Outcome.ok.injEq] at h
  -- the map holds the entries of `A.zip rand`, then `last` is a new key
  have hp0 := SMap.ofList_perm S.idLt (A.zip rand) (hkz.symm ▸ hAnd)
  have hp := (SMap.insert_perm_of_not_mem S.idLt _ last
    (lagBasis (A ++ [last]) p kp.id * kp.share - List.foldl (fun a v => a + v) 0 rand)
    (fun hm => hlast (hkz ▸ (hp0.map Prod.fst).mem_iff.mp hm))).trans (List.Perm.cons _ hp0)
  rw [h] at hp
  constructor
  · rw [SMap.values, (hp.map Prod.snd).sum_eq, List.map_cons, List.sum_cons,
      show (A.zip rand).map Prod.snd = rand from hvz, ← List.sum_eq_foldl, sub_add_cancel]
  · rw [SMap.keys]
    refine (hp.map Prod.fst).trans ?_
    rw [List.map_cons, show (A.zip rand).map Prod.fst = A from hkz]
    exact (List.perm_append_singleton last A).symm

/-- **Each helper's outgoing values sum to its Lagrange-weighted share**, and there is
    exactly one value per helper: whenever `repair_share_part1` succeeds, for every
    tape. `H` is the helper *set* (the `BTreeSet` the code builds). -/
theorem deltas_sum (S : Suite F E) (helpers : List F) (kp : KeyPackage F E) (t t' : Tape) (p : F)
    (out : List (F × F)) (h : repairSharePart1 S helpers kp t p = .ok (out, t')) :
    (SMap.values out).sum = lagBasis (SMap.setOfList S.idLt helpers) p kp.id * kp.share ∧
    (SMap.keys out).Perm (SMap.setOfList S.idLt helpers) := by
  obtain ⟨_, hself, hlenH, rand, hgen, hlast⟩ := repairSharePart1_ok h
  have hrand : rand.length = helpers.length - 1 := generateCoefficients_length hgen
  have hpos : 0 < helpers.length := List.length_pos_of_mem hself
  exact computeLastRandomValue_spec S _ (SMap.nodup_setOfList _ _) kp rand p out
    ((SMap.mem_setOfList _ _ _).mpr hself) (by rw [hrand, hlenH, Nat.sub_add_cancel hpos]) hlast

/-- **The repaired share is the group polynomial at the participant's identifier**
    (with the matching verifying share, group key and threshold), for *any* helper list
    `H` of distinct identifiers with at least `t = |cs|` members and *any* identifier `p`
    (existing, new, or even one of the helpers): `δ i j` is what helper `i` sends to helper
    `j`; the only fact used about it is `deltas_sum`. -/
theorem repair_correct (S : Suite F E) (H : List F) (hnd : H.Nodup) (cs : List F)
    (hlen : cs.length ≤ H.length) (p : F) (δ : F → F → F)
    (hδ : ∀ i ∈ H, (H.map (δ i)).sum = lagBasis H p i * hornerR cs i)
    (pkp : PublicKeyPackage F E) (m : Nat) (hm : pkp.minSigners = some m) :
    repairSharePart3 S (H.map fun j => repairSharePart2 (H.map fun i => δ i j)) p pkp =
      .ok { id := p, share := hornerR cs p, vshare := hornerR cs p • S.G, vk := pkp.vk,
            minSigners := m } := by
  have hsum : (H.map fun j => repairSharePart2 (H.map fun i => δ i j)).foldl
      (fun a s => a + s) 0 = hornerR cs p := by
    simp only [repairSharePart2, ← List.sum_eq_foldl]
    rw [sum_map_sum_comm, ← lagrange_interp_list H hnd cs hlen p]
    exact congrArg List.sum (List.map_congr_left hδ)
  unfold repairSharePart3
  simp only [hsum, hm]

/-- If the participant had a share before, the repaired package is the lost one. -/
theorem repair_existing_share (S : Suite F E) (H : List F) (hnd : H.Nodup) (cs : List F)
    (hlen : cs.length ≤ H.length) (δ : F → F → F) (lost : KeyPackage F E)
    (hshare : lost.share = hornerR cs lost.id) (hY : lost.vshare = lost.share • S.G)
    (hδ : ∀ i ∈ H, (H.map (δ i)).sum = lagBasis H lost.id i * hornerR cs i)
    (pkp : PublicKeyPackage F E) (hm : pkp.minSigners = some lost.minSigners)
    (hvk : pkp.vk = lost.vk) :
    repairSharePart3 S (H.map fun j => repairSharePart2 (H.map fun i => δ i j)) lost.id pkp =
      .ok lost := by
  rw [repair_correct S H hnd cs hlen lost.id δ hδ pkp lost.minSigners hm, hvk, ← hshare, ← hY]

/-- fewer than `min_signers` helpers are refused -/
theorem part1_refuses_few (S : Suite F E) (helpers : List F) (kp : KeyPackage F E) (t : Tape)
    (p : F) (h : helpers.length < kp.minSigners) :
    repairSharePart1 S helpers kp t p = .error .IncorrectNumberOfIdentifiers := by
  unfold repairSharePart1; simp [h]

/-- a helper list that omits the calling helper is refused -/
theorem part1_refuses_missing_self (S : Suite F E) (helpers : List F) (kp : KeyPackage F E)
    (t : Tape) (p : F) (h : kp.minSigners ≤ helpers.length) (hself : kp.id ∉ helpers) :
    repairSharePart1 S helpers kp t p = .error .UnknownIdentifier := by
  unfold repairSharePart1
  simp [Nat.not_lt.mpr h, hself]

/-- duplicate helpers are refused -/
theorem part1_refuses_duplicates (S : Suite F E) (helpers : List F) (kp : KeyPackage F E)
    (t : Tape) (p : F) (h : kp.minSigners ≤ helpers.length) (hself : kp.id ∈ helpers)
    (hdup : ¬ helpers.Nodup) :
    repairSharePart1 S helpers kp t p = .error .DuplicatedIdentifier := by
  unfold repairSharePart1
  have h2 : (SMap.setOfList S.idLt helpers).length ≠ helpers.length := by
    rw [Ne, SMap.length_setOfList_eq_iff]; exact hdup
  simp [Nat.not_lt.mpr h, hself, h2]

/-- a public key package without a recorded threshold is refused by part 3 -/
theorem part3_requires_min_signers (S : Suite F E) (sigmas : List F) (id : F)
    (pkp : PublicKeyPackage F E) (h : pkp.minSigners = none) :
    repairSharePart3 S sigmas id pkp = .error .InvalidMinSigners := by
  unfold repairSharePart3; simp [h]

/-! Non-vacuity: the hypotheses of `repair_correct` are met by a concrete group
    (3 helpers `1,2,3`, polynomial `5 + 7x`, repaired identifier `9`). -/
example : ∃ δ : ℚ → ℚ → ℚ, ∀ i ∈ ([1, 2, 3] : List ℚ),
    (([1, 2, 3] : List ℚ).map (δ i)).sum = lagBasis [1, 2, 3] 9 i * hornerR [5, 7] i :=
  ⟨fun i j => if j = 1 then lagBasis [1, 2, 3] 9 i * hornerR [5, 7] i else 0, by
    intro i _; simp⟩

end Frost.C11

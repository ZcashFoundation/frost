/-
  C09 — No delivery history of keygen messages lets honest parties silently diverge.

  The steps are characterised for *arbitrary* contents of every sender slot, which
  subsumes every delivery history (any contribution from any concurrent run, or
  nothing, in any slot).
-/
import Frost.Proofs.Dkg
import Frost.Proofs.Honest

namespace Frost.C09
open Frost Frost.SignSession

variable {F E : Type} [Field F] [DecidableEq F] [AddCommGroup E] [Module F E] [DecidableEq E]

/-- **A round-two share is accepted only if it belongs to the round-one contribution filed
    for the same sender and was addressed to this recipient**: the loop of `part3` succeeds
    iff every value `v` in sender `ℓ`'s slot satisfies `v•G = Σ_k me^k • C_{ℓ,k}` for the
    commitment `C_ℓ` filed for `ℓ` — i.e. iff `v` is (a scalar with the same image as) the
    filed polynomial's value at `me`.  A share for another addressee `i'`, or from another
    run, passes only on the coincidence `f'(i') • G = f(me) • G`. -/
theorem round2_accept_iff (S : Suite F E) (me : F) (r1c : List (F × List E)) (culprit : Bool)
    (r2 : List (F × F)) (acc sum : F) :
    part3Loop S me r1c culprit r2 acc = .ok sum ↔
      (sum = acc + (r2.map (·.2)).sum ∧
       ∀ lv ∈ r2, ∃ C, SMap.get? r1c lv.1 = some C ∧ C ≠ [] ∧ lv.2 • S.G = vssR C me) :=
  part3Loop_eq_ok

/-- **The distributed refresh applies the same rule**: `refresh_dkg_shares` runs the same loop
    over the round-one commitments with the identity re-inserted as constant term, so whenever
    it succeeds every value `v` in sender `ℓ`'s slot satisfies `v•G = Σ_k me^k • C_{ℓ,k}` for the
    commitment filed for that very sender — each share on its own, not merely their sum. -/
theorem refresh_round2_accept (S : Suite F E) (sp : Round2Secret F E)
    (r1 : List (F × Round1Package F E)) (r2 : List (F × F)) (oldPkp : PublicKeyPackage F E)
    (oldKp : KeyPackage F E) (out : KeyPackage F E × PublicKeyPackage F E)
    (h : refreshDkgShares S sp r1 r2 oldPkp oldKp = .ok out) :
    ∀ lv ∈ r2, ∃ C, SMap.get? (r1.map fun ip => (ip.1, (0 : E) :: ip.2.commitment)) lv.1 = some C ∧
      lv.2 • S.G = vssR C sp.id := by
  obtain ⟨_, _, _, _, _, sum, _, _, hloop, _⟩ :=
    (refreshDkgShares_eq_ok S sp r1 r2 oldPkp oldKp out).mp h
  intro lv hlv
  obtain ⟨C, hC, _, hv⟩ := (part3Loop_eq_ok.mp hloop).2 lv hlv
  exact ⟨C, hC, hv⟩

/-- if `part2` succeeds, every filed round-one commitment has the recorded threshold as its
    length (this discharges the length hypothesis of `part3_ok_consistent` for the map that
    `part2` accepted) -/
theorem part2_ok_lengths (S : Suite F E) (sp : Round1Secret F E)
    (r1 : List (F × Round1Package F E)) (out : Round2Secret F E × List (F × F))
    (h : dkgPart2 S sp r1 = .ok out) :
    ∀ ip ∈ r1, asU16 ip.2.commitment.length = sp.minSigners := by
  obtain ⟨sp2, r2⟩ := out
  exact (dkgPart2_ok h).2.2.2.1

/-- **Every successful `part3` yields internally consistent key material**
    (see `Frost.part3_ok_consistent`). -/
theorem part3_ok_consistent (S : Suite F E) (hpost : ∀ kp pkp, S.postDkg kp pkp = (kp, pkp))
    (sp : Round2Secret F E) (r1 : List (F × Round1Package F E)) (r2 : List (F × F))
    (kp : KeyPackage F E) (pkp : PublicKeyPackage F E)
    (h : dkgPart3 S sp r1 r2 = .ok (kp, pkp))
    (hk1 : (SMap.keys r1).Nodup) (hk2 : (SMap.keys r2).Nodup)
    (hlen : ∀ ip ∈ r1, ip.2.commitment.length = sp.commitment.length)
    (hne : sp.commitment ≠ [])
    (hown : sp.secretShare • S.G = vssR sp.commitment sp.id) :
    kp.id = sp.id ∧ kp.vshare = kp.share • S.G ∧ kp.vk = pkp.vk ∧
    kp.minSigners = sp.minSigners ∧ pkp.minSigners = some (asU16 sp.commitment.length) ∧
    SMap.get? pkp.vshares sp.id = some kp.vshare ∧
    (SMap.keys pkp.vshares).Perm (sp.id :: SMap.keys r1) :=
  Frost.part3_ok_consistent S hpost sp r1 r2 kp pkp h hk1 hk2 hlen hne hown

/-- **The public key package is a function of the set of round-one commitments only**:
    two participants whose complete commitment maps hold the same entries (in any order)
    derive the same group key, the same threshold and the same verifying share for every
    identifier. -/
theorem pkp_function_of_commitments (cm cm' : List (F × List E)) (L : Nat) (hne : cm ≠ [])
    (hperm : cm.Perm cm') (hL : ∀ ic ∈ cm, ic.2.length = L) (hLpos : 0 < L) :
    ∃ p p' : PublicKeyPackage F E,
      (PublicKeyPackage.fromDkgCommitments cm : Outcome F _) = .ok p ∧
      (PublicKeyPackage.fromDkgCommitments cm' : Outcome F _) = .ok p' ∧
      p.vk = p'.vk ∧ p.minSigners = p'.minSigners ∧
      ∀ id ∈ SMap.keys cm, SMap.get? p.vshares id = SMap.get? p'.vshares id := by
  have hne' : cm' ≠ [] := by
    intro e
    rw [e] at hperm
    exact hne hperm.eq_nil
  have hL' : ∀ ic ∈ cm', ic.2.length = L := fun ic hic => hL ic (hperm.mem_iff.mpr hic)
  obtain ⟨gc, _, hv, hp⟩ := fromDkgCommitments_spec (F := F) cm L hne hL hLpos
  obtain ⟨gc', _, hv', hp'⟩ := fromDkgCommitments_spec (F := F) cm' L hne' hL' hLpos
  have heq : ∀ x : F, vssR gc x = vssR gc' x := by
    intro x; rw [hv, hv', (hperm.map fun ic => vssR ic.2 x).sum_eq]
  refine ⟨_, _, hp, hp', heq 0, rfl, ?_⟩
  intro id hid
  have hid' : id ∈ SMap.keys cm' := (hperm.map Prod.fst).mem_iff.mp hid
  simp only
  rw [SMap.get?_graph _ _ _ hid, SMap.get?_graph _ _ _ hid', heq id]

/-- **Participants that completed on one common commitment set can sign together.**
    Proved purely in the group from the VSS checks — it holds even if the senders'
    polynomials are unknown: signers `X.ids` whose signing shares satisfy
    `sᵢ • G = Σ_k i^k • gc_k` for a common summed commitment `gc` with at most `|X.ids|`
    entries, and the group key `gc₀ = Σ_k 0^k • gc_k`, produce an aggregate that is released
    in every detection mode (hence valid, by C04). -/
theorem common_set_can_sign (B : Base F E) (X : SignSession F E) (h : X.Ok B)
    (gc : List E) (hlen : gc.length ≤ X.ids.length) (s : F → F)
    (hs : ∀ i ∈ X.ids, s i • B.G = vssR gc i) (hvk : X.vk = vssR gc (0 : F))
    (pkp : PublicKeyPackage F E) (hpvk : pkp.vk = X.vk)
    (hvs : ∀ i ∈ X.ids, SMap.get? pkp.vshares i = some (s i • B.G))
    (hmin : ∀ m, pkp.minSigners = some m → m ≤ X.ids.length) (mode : CheaterDetection) :
    aggregateCustom (Suite.ofBase B) (X.pkg B) (X.sharesMap (X.honest s)) pkp mode =
      .ok ⟨X.R, (X.ids.map (X.honest s)).sum⟩ := by
  refine aggregate_honest h s ?_ pkp hpvk hvs hmin mode
  rw [hvk, ← lagrange_interp_module X.ids h.nodup gc hlen 0, List.sum_smul, List.map_map]
  congr 1
  apply List.map_congr_left
  intro i hi
  rw [← hs i hi]
  exact mul_smul _ _ _

/-! Non-vacuity: over ℚ (`G = 1`) the summed commitment `[5, 7]` and signers `1, 2` with
    shares `12, 19` satisfy the hypothesis `sᵢ • G = Σ i^k • gc_k`. -/
example : (12 : ℚ) • (1 : ℚ) = vssR ([5, 7] : List ℚ) (1 : ℚ) ∧
    (19 : ℚ) • (1 : ℚ) = vssR ([5, 7] : List ℚ) (2 : ℚ) := by
  constructor <;> simp [vssR] <;> norm_num

end Frost.C09

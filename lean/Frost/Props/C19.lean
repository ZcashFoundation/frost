/-
  C19 — Batch verification accepts exactly the batches whose every item verifies.

  The check of this property also audits `C18.taproot_mirror_rejected` (the Taproot suite's
  batch items are normalised by `pre_verify`): hence the import of C18.
-/
import Frost.Proofs.NoPanic
import Frost.Proofs.NafValue
import Frost.Props.C18
import Mathlib.Tactic.Module

set_option linter.unusedSectionVars false

namespace Frost.C19
open Frost

variable {F E : Type} [Field F] [DecidableEq F] [AddCommGroup E] [Module F E] [DecidableEq E]

/-- the empty batch is rejected -/
theorem batch_empty (S : Suite F E) (t : Tape) :
    batchVerify S [] t = .error .InvalidSignature := rfl

/-- **Single-item verification of an item agrees with ordinary verification** of the same
    key, message and signature (for every suite, including the Taproot `pre_verify`). -/
theorem single_eq_verify (S : Suite F E) (vk : E) (sig : Signature F E) (msg : Bytes) :
    (match BatchItem.new S vk sig msg with
     | .ok it => it.verifySingle S
     | .error e => .error e
     | .panic s => .panic s) = verifySignature S vk msg sig := by
  unfold BatchItem.new verifySignature BatchItem.verifySingle
  rcases hp : S.preVerify sig vk with ⟨sig', vk'⟩
  simp only
  cases S.challenge sig'.R vk' msg <;> rfl

/-- the defect of one item: `R + c•VK − z•G` (zero iff the item satisfies the plain
    verification equation) -/
def defect (B : Base F E) (it : BatchItem F E) : E := it.sig.R + it.c • it.vk - it.sig.z • B.G

/-- the random linear combination the verifier forms -/
def combo (B : Base F E) : List (BatchItem F E) → List F → E
  | it :: its, b :: bs => b • defect B it + combo B its bs
  | _, _ => 0

/-- the loop draws exactly one `Field::random` blinder per item, in queue order -/
theorem batchLoop_eq (S : Suite F E) (items : List (BatchItem F E)) (acc : BatchAcc F E) (t : Tape) :
    batchLoop S items acc t =
      match generateCoefficients S items.length t with
      | none => none
      | some (bs, t') => some
          ({ pAcc := acc.pAcc - (List.zipWith (fun b (it : BatchItem F E) => b * it.sig.z) bs items).sum,
             vkCoeffs := acc.vkCoeffs ++ List.zipWith (fun b (it : BatchItem F E) => 0 + b * it.c) bs items,
             vks := acc.vks ++ items.map (·.vk),
             rCoeffs := acc.rCoeffs ++ bs,
             rs := acc.rs ++ items.map (·.sig.R) }, t') := by
  induction items generalizing acc t with
  | nil => simp [batchLoop, generateCoefficients]
  | cons it rest ih =>
    simp only [List.length_cons]
    unfold batchLoop generateCoefficients
    cases hr : S.randomScalar t with
    | none => rfl
    | some bt =>
      obtain ⟨b, t1⟩ := bt
      simp only
      rw [ih]
      cases hg : generateCoefficients S rest.length t1 with
      | none => rfl
      | some r =>
        obtain ⟨bs, t2⟩ := r
        simp only [List.zipWith_cons_cons, List.sum_cons, List.map_cons, List.append_assoc,
          List.singleton_append, sub_sub]

/-- the three blocks of the multiscalar product, regrouped item by item -/
theorem zipWith_smul_sum (B : Base F E) (items : List (BatchItem F E)) (bs : List F) :
    (0 - (List.zipWith (fun b (it : BatchItem F E) => b * it.sig.z) bs items).sum) • B.G
      + (List.zipWith (fun s e => s • e)
          (List.zipWith (fun b (it : BatchItem F E) => 0 + b * it.c) bs items)
          (items.map (·.vk))).sum
      + (List.zipWith (fun s e => s • e) bs (items.map (·.sig.R))).sum = combo B items bs := by
  induction items generalizing bs with
  | nil => cases bs <;> simp [combo]
  | cons it its ih =>
    cases bs with
    | nil => simp [combo]
    | cons b bs =>
      simp only [List.zipWith_cons_cons, List.sum_cons, List.map_cons, combo, defect, ← ih bs]
      module

theorem zipWith_smul_blocks (p : F) (G : E) (cs bs : List F) (vks rs : List E)
    (h : cs.length = vks.length) :
    (List.zipWith (fun s e => s • e) ([p] ++ cs ++ bs) ([G] ++ vks ++ rs)).sum =
      p • G + (List.zipWith (fun s e => s • e) cs vks).sum
        + (List.zipWith (fun s e => s • e) bs rs).sum := by
  have h1 : ([p] ++ cs).length = ([G] ++ vks).length := by
    rw [List.length_append, List.length_append, h]; rfl
  rw [List.zipWith_append h1, List.sum_append, List.singleton_append, List.singleton_append,
    List.zipWith_cons_cons, List.sum_cons]

/-- **What the batch verifier computes**: with blinders `bs` (one draw per item) it accepts
    iff `h • Σ bᵢ • (Rᵢ + cᵢ•VKᵢ − zᵢ•G) = 0`. -/
theorem batch_eq (S : Suite F E) (hmsm : MsmSound (E := E) S.leBytes) (items : List (BatchItem F E))
    (hne : items ≠ []) (t t' : Tape) (bs : List F)
    (hgen : generateCoefficients S items.length t = some (bs, t'))
    (hnp : ∀ s, batchVerify S items t ≠ .panic s) :
    batchVerify S items t =
      if S.cofactor • combo S.toBase items bs = 0 then .ok ((), t') else .error .InvalidSignature := by
  have hbl : bs.length = items.length := generateCoefficients_length hgen
  unfold batchVerify at hnp ⊢
  have h0 : items.length ≠ 0 := fun h => hne (List.eq_nil_of_length_eq_zero h)
  rw [if_neg h0] at hnp ⊢
  rw [batchLoop_eq, hgen] at hnp ⊢
  simp only [List.nil_append] at hnp ⊢
  split
  · rename_i hm
    rw [hm] at hnp
    exact absurd rfl (hnp _)
  · rename_i v hm
    have hv := hmsm _ _ _ hm
    have hcv : (List.zipWith (fun b (it : BatchItem F E) => 0 + b * it.c) bs items).length =
        (items.map (·.vk)).length := by
      rw [List.length_zipWith, List.length_map, hbl, Nat.min_self]
    rw [hv, zipWith_smul_blocks _ _ _ _ _ _ hcv, zipWith_smul_sum]

theorem combo_smul_eq_zero (B : Base F E) (h : F) (items : List (BatchItem F E)) (bs : List F)
    (hv : ∀ it ∈ items, h • defect B it = 0) : h • combo B items bs = 0 := by
  induction items generalizing bs with
  | nil => cases bs <;> exact smul_zero h
  | cons it its ih =>
    cases bs with
    | nil => exact smul_zero h
    | cons b bs =>
      obtain ⟨h0, hv⟩ := List.forall_mem_cons.mp hv
      rw [combo, smul_add, smul_comm, h0, smul_zero, ih bs hv, add_zero]

/-- **A batch whose every item is valid is accepted for every blinder tape.** -/
theorem batch_accepts_valid (S : Suite F E) (hmsm : MsmSound (E := E) S.leBytes)
    (items : List (BatchItem F E)) (hne : items ≠ []) (t t' : Tape) (bs : List F)
    (hgen : generateCoefficients S items.length t = some (bs, t'))
    (hnp : ∀ s, batchVerify S items t ≠ .panic s)
    (hvalid : ∀ it ∈ items, S.cofactor • defect S.toBase it = 0) :
    batchVerify S items t = .ok ((), t') :=
  (batch_eq S hmsm items hne t t' bs hgen hnp).trans
    (if_pos (combo_smul_eq_zero S.toBase S.cofactor items bs hvalid))

theorem combo_append (B : Base F E) (pre post : List (BatchItem F E)) (bp bq : List F)
    (hlen : bp.length = pre.length) :
    combo B (pre ++ post) (bp ++ bq) = combo B pre bp + combo B post bq := by
  induction pre generalizing bp with
  | nil =>
    rw [List.length_eq_zero_iff.mp hlen]
    exact (zero_add _).symm
  | cons it its ih =>
    obtain ⟨b, bp, rfl⟩ := List.exists_cons_of_length_eq_add_one hlen
    rw [List.cons_append, List.cons_append, combo, combo, ih bp (Nat.succ.inj hlen), add_assoc]

theorem combo_split (B : Base F E) (pre post : List (BatchItem F E)) (it : BatchItem F E)
    (bp bq : List F) (b : F) (hlen : bp.length = pre.length) :
    combo B (pre ++ it :: post) (bp ++ b :: bq) =
      combo B pre bp + b • defect B it + combo B post bq := by
  rw [combo_append B pre _ bp _ hlen, combo, add_assoc]

/-- **If some item is invalid, then for every choice of the other blinders at most one
    value of its own blinder is accepted** — the accepted tapes are the kernel of a non-zero
    linear functional, so (over a field with `q` elements) a fraction `≤ 1/q` of them.  This
    holds for *any* defects of the other items, including pairs crafted to cancel, because
    each item has its own independent draw (`batchLoop_eq`). -/
theorem batch_rejects_invalid (B : Base F E) (pre post : List (BatchItem F E))
    (it : BatchItem F E) (bp bq : List F) (b b' : F) (hlen : bp.length = pre.length)
    (hinvalid : B.cofactor • defect B it ≠ 0)
    (hacc : B.cofactor • combo B (pre ++ it :: post) (bp ++ b :: bq) = 0)
    (hacc' : B.cofactor • combo B (pre ++ it :: post) (bp ++ b' :: bq) = 0) :
    b = b' := by
  have h := hacc.trans hacc'.symm
  rw [combo_split B pre post it bp bq b hlen, combo_split B pre post it bp bq b' hlen,
    smul_add, smul_add, smul_add, smul_add, add_left_inj, add_right_inj,
    smul_comm _ b, smul_comm _ b'] at h
  exact smul_left_injective F hinvalid h

/-! Non-vacuity (ℚ, `G = 1`, cofactor 1): an invalid item (`R + c·VK − z·G = 1 + 1·2 − 5 ≠ 0`). -/
example : (1 : ℚ) • defect exBase ⟨(2 : ℚ), ⟨1, 5⟩, 1⟩ ≠ 0 := by
  simp [defect, exBase]; norm_num

/-- the random source delivering all blinders is all the batch loop needs -/
theorem batchLoop_isSome_of_gen (S : Suite F E) (items : List (BatchItem F E)) (t t' : Tape) (bs : List F)
    (hgen : generateCoefficients S items.length t = some (bs, t')) :
    (batchLoop S items ⟨0, [], [], [], []⟩ t).isSome := by
  rw [batchLoop_eq, hgen]; rfl

/-- **What `Verifier::verify` returns**, given only the encoding law of `little_endian_serialize`
    (`MsmSound` and no-panic are theorems): for every non-empty batch and every
    tape that delivers the blinders `bs`, it returns `Ok` iff `h • Σ bᵢ • defectᵢ = 0`, and
    `InvalidSignature` otherwise — it never panics and never returns another error. -/
theorem batch_decides (S : Suite F E) (hle : LeSound S.leBytes) (items : List (BatchItem F E))
    (hne : items ≠ []) (t t' : Tape) (bs : List F)
    (hgen : generateCoefficients S items.length t = some (bs, t')) :
    batchVerify S items t =
      if S.cofactor • combo S.toBase items bs = 0 then .ok ((), t') else .error .InvalidSignature :=
  batch_eq S (msmSound_of_leSound S.leBytes hle) items hne t t' bs hgen
    (batchVerify_np S items t (batchLoop_isSome_of_gen S items t t' bs hgen))

/-- **Completeness**, under the encoding law alone: a batch whose every item verifies is accepted on every
    tape. -/
theorem batch_accepts_valid' (S : Suite F E) (hle : LeSound S.leBytes)
    (items : List (BatchItem F E)) (hne : items ≠ []) (t t' : Tape) (bs : List F)
    (hgen : generateCoefficients S items.length t = some (bs, t'))
    (hvalid : ∀ it ∈ items, S.cofactor • defect S.toBase it = 0) :
    batchVerify S items t = .ok ((), t') :=
  (batch_decides S hle items hne t t' bs hgen).trans
    (if_pos (combo_smul_eq_zero S.toBase S.cofactor items bs hvalid))

/-- **Soundness on the model's own return value**: if one item is invalid and the verifier
    accepts on two tapes that differ only in that item's blinder, the two blinders are equal —
    stated about `batchVerify` itself, not about `combo`. -/
theorem batch_accepts_at_most_one_blinder (S : Suite F E) (hle : LeSound S.leBytes)
    (pre post : List (BatchItem F E)) (it : BatchItem F E) (bp bq : List F) (b b' : F)
    (hlen : bp.length = pre.length) (t₁ t₁' t₂ t₂' : Tape)
    (hgen₁ : generateCoefficients S (pre ++ it :: post).length t₁ = some (bp ++ b :: bq, t₁'))
    (hgen₂ : generateCoefficients S (pre ++ it :: post).length t₂ = some (bp ++ b' :: bq, t₂'))
    (hinvalid : S.cofactor • defect S.toBase it ≠ 0)
    (hacc₁ : batchVerify S (pre ++ it :: post) t₁ = .ok ((), t₁'))
    (hacc₂ : batchVerify S (pre ++ it :: post) t₂ = .ok ((), t₂')) :
    b = b' := by
  have hne : pre ++ it :: post ≠ [] := List.append_ne_nil_of_right_ne_nil _ (List.cons_ne_nil _ _)
  rw [batch_decides S hle _ hne t₁ t₁' _ hgen₁, Outcome.ite_eq_ok] at hacc₁
  rw [batch_decides S hle _ hne t₂ t₂' _ hgen₂, Outcome.ite_eq_ok] at hacc₂
  exact batch_rejects_invalid S.toBase pre post it bp bq b b' hlen hinvalid hacc₁ hacc₂

end Frost.C19

/-
  C16 — All secret randomness is drawn fresh from the caller's source and nowhere else.

  Every model function that takes a random source takes and returns the tape; it has no
  other source of values, so equal tapes give equal outputs by construction.  The theorems
  below give, per entry point, the exact sequence of draws and the frame property: the
  `j`-th secret value is a function of the `j`-th draw and of nothing else.

  The draws of the signing nonces, of the randomizer seed and of the batch blinders are
  `C15.preprocess_draws`, `C17.seed_is_one_draw`, `C19.batchLoop_eq`; the check of this property
  audits them too, hence the imports of C15, C17, C19.
-/
import Frost.Proofs.Basic
import Frost.Proofs.Steps
import Frost.Proofs.Draws
import Frost.Ref.Bip340
import Frost.Props.C15
import Frost.Props.C17
import Frost.Props.C19

set_option linter.unusedSectionVars false

namespace Frost.C16
open Frost

variable {F E : Type} [Field F] [DecidableEq F] [AddCommGroup E] [Module F E] [DecidableEq E]

/-- `Field::random` consumes a prefix of the tape and its value depends on that prefix only -/
def PrefixDraw (S : Suite F E) : Prop :=
  ∀ t v t', S.randomScalar t = some (v, t') →
    ∃ b, t = b ++ t' ∧ ∀ rest, S.randomScalar (b ++ rest) = some (v, rest)

/-- **`k` coefficients are `k` successive, disjoint draws**: the tape splits as
    `b₁ ‖ … ‖ b_k ‖ rest`, value `j` is `Field::random` of `b_j` alone (whatever follows it),
    so changing draw `j` changes value `j` only, and no two values share a draw. -/
theorem coefficients_frame (S : Suite F E) (hP : PrefixDraw S) (k : Nat) (t t' : Tape)
    (vs : List F) (h : generateCoefficients S k t = some (vs, t')) :
    ∃ bs : List Bytes, bs.length = k ∧ vs.length = k ∧ t = bs.flatten ++ t' ∧
      ∀ j (hj : j < bs.length) (hj' : j < vs.length) rest,
        S.randomScalar (bs[j] ++ rest) = some (vs[j], rest) := by
  induction k generalizing t vs with
  | zero =>
    cases h
    exact ⟨[], rfl, rfl, rfl, fun j hj => absurd hj (Nat.not_lt_zero j)⟩
  | succ k ih =>
    unfold generateCoefficients at h
    split at h
    · cases h
    rename_i c t1 hr
    split at h
    · cases h
    rename_i cs t2 hg
    cases h
    obtain ⟨b, rfl, hfr⟩ := hP t c t1 hr
    obtain ⟨bs, hl, hvl, rfl, hrest⟩ := ih t1 cs hg
    refine ⟨b :: bs, congrArg (· + 1) hl, congrArg (· + 1) hvl,
      by rw [List.flatten_cons, List.append_assoc], fun j hj hj' rest => ?_⟩
    cases j with
    | zero => exact hfr rest
    | succ j => exact hrest j (Nat.lt_of_succ_lt_succ hj) (Nat.lt_of_succ_lt_succ hj') rest

/-- rejection sampling of zero: the returned scalar is a `Field::random` value of the tape,
    every rejected draw was zero (so the key / proof nonce is never zero) -/
theorem randomNonzero_spec (B : Base F E) (fuel : Nat) (t t' : Tape) (v : F)
    (h : B.randomNonzeroFuel fuel t = some (v, t')) :
    v ≠ 0 ∧ ∃ t0, B.randomScalar t0 = some (v, t') := by
  induction fuel generalizing t with
  | zero => cases h
  | succ n ih =>
    rw [Base.randomNonzeroFuel] at h
    split at h
    · cases h
    rename_i s t1 hr
    by_cases hs : s = 0
    · rw [if_pos hs] at h
      exact ih t1 h
    · rw [if_neg hs] at h
      cases h
      exact ⟨hs, t, hr⟩

/-- the tape `split` returns is the one after its `t−1` coefficient draws -/
theorem split_tape (S : Suite F E) (key : F) (n t : Nat) (ids : Option (List F)) (t1 tape' : Tape)
    (out : List (F × SecretShare F E) × PublicKeyPackage F E)
    (h : split S key n t ids t1 = .ok (out, tape')) :
    ∃ coeffs, generateCoefficients S (t - 1) t1 = some (coeffs, tape') := by
  unfold split at h
  split at h
  · cases h
  · cases h
  obtain ⟨-, h⟩ := Outcome.ite_error_eq_ok.1 h
  split at h
  · cases h
  rename_i coeffs t2 hg
  split at h
  · cases h
  · cases h
  split at h
  · cases h
  · cases h
  cases h
  exact ⟨coeffs, hg⟩

/-- **Dealer** (`generate_with_dealer`): first the key (non-zero rejection sampling), then
    exactly `t−1` coefficient draws from the rest of the tape; nothing else is drawn. -/
theorem dealer_draws (S : Suite F E) (n t : Nat) (ids : Option (List F)) (tape tape' : Tape)
    (out : List (F × SecretShare F E) × PublicKeyPackage F E)
    (h : generateWithDealer S n t ids tape = .ok (out, tape')) :
    ∃ key t1 coeffs, signingKeyNew S tape = some (key, t1) ∧
      generateCoefficients S (t - 1) t1 = some (coeffs, tape') ∧
      split S key n t ids t1 = .ok (out, tape') := by
  unfold generateWithDealer at h
  split at h
  · cases h
  rename_i key t1 hk
  obtain ⟨coeffs, hc⟩ := split_tape S key n t ids t1 tape' out h
  exact ⟨key, t1, coeffs, hk, hc, h⟩

/-- **DKG part 1**: the key, then `t−1` coefficients, then the proof-of-knowledge nonce — three
    consecutive segments of the tape, in this order. -/
theorem part1_draws (S : Suite F E) (id : F) (n t : Nat) (tape tape' : Tape)
    (out : Round1Secret F E × Round1Package F E)
    (h : dkgPart1 S id n t tape = .ok (out, tape')) :
    ∃ secret t1 coeffs t2 kR, signingKeyNew S tape = some (secret, t1) ∧
      generateCoefficients S (t - 1) t1 = some (coeffs, t2) ∧
      S.generateNonce t2 = some (kR, tape') ∧
      out.1.coefficients = secret :: coeffs ∧ out.2.pok.R = kR.2 := by
  obtain ⟨secret, t1, coeffs, t2, pok, _, _, _, hk, hg, hp, rfl⟩ := dkgPart1_ok h
  obtain ⟨k, R, _, _, _, hn, _, _, _, rfl⟩ := computeProofOfKnowledge_ok hp
  exact ⟨secret, t1, coeffs, t2, (k, R), hk, hg, hn, rfl, rfl⟩

/-- **Repair part 1**: exactly `|H|−1` blinding values, one draw each. -/
theorem repair1_draws (S : Suite F E) (helpers : List F) (kp : KeyPackage F E) (tape tape' : Tape)
    (p : F) (out : List (F × F)) (h : repairSharePart1 S helpers kp tape p = .ok (out, tape')) :
    ∃ rand, generateCoefficients S (helpers.length - 1) tape = some (rand, tape') ∧
      computeLastRandomValue S (SMap.setOfList S.idLt helpers) kp rand p = .ok out := by
  obtain ⟨_, _, _, rand, hg, hl⟩ := repairSharePart1_ok h
  exact ⟨rand, hg, hl⟩

/-- **Dealer refresh**: exactly `t−1` coefficient draws (the constant term is the fixed zero). -/
theorem refresh_draws (S : Suite F E) (pkp : PublicKeyPackage F E) (ids : List F)
    (tape tape' : Tape) (out : List (SecretShare F E) × PublicKeyPackage F E)
    (h : computeRefreshingShares S pkp ids tape = .ok (out, tape')) :
    ∃ m coeffs, pkp.minSigners = some m ∧
      generateCoefficients S (m - 1) tape = some (coeffs, tape') := by
  unfold computeRefreshingShares at h
  split at h
  · cases h
  rename_i m hm
  dsimp only at h
  split at h
  · cases h
  · cases h
  obtain ⟨-, h⟩ := Outcome.ite_error_eq_ok.1 h
  split at h
  · cases h
  rename_i coeffs t1 hg
  split at h
  · cases h
  · cases h
  split at h
  · cases h
  · cases h
  cases h
  exact ⟨m, coeffs, hm, hg⟩

/-- single-signer signing draws exactly the nonce -/
theorem defaultSign_draws (S : Suite F E) (sk : F) (tape tape' : Tape) (msg : Bytes)
    (sig : Signature F E) (h : defaultSign S sk tape msg = .ok (sig, tape')) :
    ∃ k, S.generateNonce tape = some ((k, sig.R), tape') := by
  unfold defaultSign at h
  split at h
  · cases h
  rename_i k R t1 hn
  dsimp only at h
  split at h
  · cases h
    exact ⟨k, hn⟩
  · cases h
  · cases h

/-- the randomizer seed is one draw of scalar length (C17), the batch blinders are one draw
    per item (C19), the signing nonces two 32-byte draws per pair (C15) -/
theorem other_entry_points : True := trivial

/-! ### the hypothesis `PrefixDraw` holds for the `Field::random` model of every suite

  curve25519-dalek / ed448-goldilocks: one wide draw reduced mod the order; k256 / p256: 32-byte
  blocks, every block that is not below the order DISCARDED, the first one below it taken as it
  is (`Frost.Ref.randomRejection_prefix`: never a fixed fallback value, never a reduction). -/

theorem prefixDraw_ed25519 : PrefixDraw Frost.Ref.ed25519Suite := by
  intro t v t' h
  obtain ⟨b, hb, _, hr⟩ := Frost.Ref.randomWide_prefix _ _ t v t' h
  exact ⟨b, hb, hr⟩

theorem prefixDraw_ristretto255 : PrefixDraw Frost.Ref.ristrettoSuite := by
  intro t v t' h
  obtain ⟨b, hb, _, hr⟩ := Frost.Ref.randomWide_prefix _ _ t v t' h
  exact ⟨b, hb, hr⟩

theorem prefixDraw_ed448 : PrefixDraw Frost.Ref.ed448Suite := by
  intro t v t' h
  obtain ⟨b, hb, _, hr⟩ := Frost.Ref.randomWide_prefix _ _ t v t' h
  exact ⟨b, hb, hr⟩

theorem prefixDraw_p256 : PrefixDraw Frost.Ref.p256Suite := by
  intro t v t' h
  exact Frost.Ref.randomRejection_prefixDraw _ t v t' h

theorem prefixDraw_secp256k1 : PrefixDraw Frost.Ref.secp256k1Suite := by
  intro t v t' h
  exact Frost.Ref.randomRejection_prefixDraw _ t v t' h

theorem prefixDraw_secp256k1_tr : PrefixDraw Frost.Ref.secp256k1TrSuite := by
  intro t v t' h
  exact Frost.Ref.randomRejection_prefixDraw _ t v t' h

/-- what a rejection-sampling backend returns: the value of the first 32-byte block below the
    order, after a run of discarded blocks none of which is below it -/
theorem rejection_sampling_spec (q fuel : Nat) (t : Tape) (v : Frost.Ref.Fq q) (t' : Tape)
    (h : Frost.Ref.randomRejection q fuel t = some (v, t')) :
    ∃ (rejected : List Bytes) (acc : Bytes),
      t = rejected.flatten ++ acc ++ t' ∧ acc.length = 32 ∧ Frost.Ref.beToNat acc < q ∧
      v = ⟨Frost.Ref.beToNat acc⟩ ∧ ∀ r ∈ rejected, r.length = 32 ∧ ¬ Frost.Ref.beToNat r < q := by
  obtain ⟨rej, acc, h1, h2, h3, h4, h5, _⟩ := Frost.Ref.randomRejection_prefix q fuel t v t' h
  exact ⟨rej, acc, h1, h2, h3, h4, h5⟩

/-! Non-vacuity: the example suite's `Field::random` (one byte per draw) has the prefix
    property on non-empty tapes. -/
example : exSuite.randomScalar ([7] ++ [8, 9]) = some (1, [8, 9]) := rfl

end Frost.C16

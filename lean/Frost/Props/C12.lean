/-
  C12 — Wire encodings round-trip, are canonical, and reject everything else.

  The wire model is Frost.Model.Wire (postcard layout of every package type and the
  fixed-size primitive decoders); lemmas are in Frost.Proofs.Wire / WireRef.
-/
import Frost.Proofs.Wire
import Frost.Proofs.WireRef
import Frost.Proofs.Ed25519Canon
import Frost.Model.Json
import Frost.Model.Taproot

set_option linter.unusedSectionVars false

namespace Frost.C12
open Frost Frost.Wire

/-- **postcard varints round-trip**, for any byte budget `f` and last-byte bound `lastMax` -/
theorem decVarint_encVarint (lastMax : Nat) (hl : lastMax < 128) (f n i acc : Nat) (rest : Bytes)
    (hf : 0 < f) (hn : n < 128 ^ (f - 1) * (lastMax + 1)) :
    decVarint lastMax f i acc (encVarint f n ++ rest) = some (acc + n * 2 ^ (7 * i), rest) :=
  Wire.decVarint_encVarint lastMax hl f n i acc rest hf hn

theorem decU16_encU16 (n : Nat) (b rest : Bytes) (h : encU16 n = some b) :
    decU16 (b ++ rest) = some (n, rest) := Wire.decU16_encU16 h rest

theorem encU16_isSome (n : Nat) : (encU16 n).isSome ↔ n < 65536 := by
  unfold encU16; split <;> simp [*]

theorem decUsize_encUsize (n : Nat) (rest : Bytes) (h : n < 2 ^ 64) :
    decUsize (encUsize n ++ rest) = some (n, rest) := Wire.decUsize_encUsize h rest

/-- **The header is accepted iff the input starts with exactly this ciphersuite's header**
    (`00 ‖ CRC32(ID)`): any other version byte, any other ciphersuite id, or a shorter input
    is rejected. -/
theorem header_accept_iff (hdr b rest : Bytes) :
    decHeader hdr b = some ((), rest) ↔ b = hdr ++ rest := by
  constructor
  · intro h
    unfold decHeader at h
    split at h
    · cases h
    · rename_i x r hx
      split at h
      · rename_i heq
        cases h
        exact heq ▸ decBytesN_eq_some hx
      · cases h
  · rintro rfl; exact decHeader_append hdr rest

theorem header_reject (hdr b : Bytes) (h : ¬ hdr <+: b) : decHeader hdr b = none := by
  cases hd : decHeader hdr b with
  | none => rfl
  | some p =>
    obtain ⟨u, rest⟩ := p
    exact absurd ⟨rest, ((header_accept_iff hdr b rest).1 hd).symm⟩ h

/-- …and every container that carries a header starts by reading it -/
theorem keyPackage_needs_header {F E : Type} [Zero F] [DecidableEq F] (S : Suite F E)
    (hdr b : Bytes) (h : ¬ hdr <+: b) : decKeyPackage S hdr b = none := by
  unfold decKeyPackage; rw [header_reject hdr b h]

theorem commitments_needs_header {F E : Type} [Zero F] [DecidableEq F] (S : Suite F E)
    (hdr b : Bytes) (h : ¬ hdr <+: b) : decCommitments S hdr b = none := by
  unfold decCommitments; rw [header_reject hdr b h]

theorem package_needs_header {F E : Type} [Zero F] [DecidableEq F] (S : Suite F E)
    (hdr b : Bytes) (h : ¬ hdr <+: b) : decPackage S hdr b = none := by
  unfold decPackage; rw [header_reject hdr b h]

theorem publicKeyPackage_needs_header {F E : Type} [Zero F] [DecidableEq F] (S : Suite F E)
    (hdr b : Bytes) (h : ¬ hdr <+: b) : decPublicKeyPackage S hdr b = none := by
  unfold decPublicKeyPackage; rw [header_reject hdr b h]

theorem secretShare_needs_header {F E : Type} [Zero F] [DecidableEq F] (S : Suite F E)
    (hdr b : Bytes) (h : ¬ hdr <+: b) : decSecretShare S hdr b = none := by
  unfold decSecretShare; rw [header_reject hdr b h]

section roundtrip
variable {F E : Type} [Zero F] [DecidableEq F]
variable {S : Suite F E} {hdr : Bytes} {okS : F → Prop} {okE : E → Prop}

/-- `postcard::from_bytes` on an encoding (followed by anything) returns the value -/
theorem deserialize_of_RT {α : Type} {e : Enc α} {d : Dec α} {a : α} (h : RT e d a)
    (b rest : Bytes) (hb : e a = some b) : deserialize d (b ++ rest) = some a := by
  unfold deserialize; rw [h b rest hb]

theorem rt_commitments (L : BaseLaws S.toBase okS okE) (c : SigningCommitments E)
    (hc : okE c.hid ∧ okE c.bnd) : RT (encCommitments S hdr) (decCommitments S hdr) c :=
  Wire.rt_commitments L c hc

theorem rt_nonces (L : BaseLaws S.toBase okS okE) (n : SigningNonces F E)
    (hn : okS n.hid ∧ okS n.bnd ∧ okE n.commitments.hid ∧ okE n.commitments.bnd) :
    RT (encNonces S hdr) (decNonces S hdr) n := Wire.rt_nonces L n hn

/-- signing package: the commitment map is in `BTreeMap` order (strictly ascending
    identifiers under an asymmetric order), identifiers are non-zero -/
theorem rt_package (L : BaseLaws S.toBase okS okE) (p : SigningPackage F E)
    (hasym : ∀ a b, S.idLt a b = true → S.idLt b a = false)
    (hsorted : p.commitments.Pairwise (fun a b => S.idLt a.1 b.1 = true))
    (hids : ∀ kv ∈ p.commitments, okS kv.1 ∧ kv.1 ≠ 0 ∧ okE kv.2.hid ∧ okE kv.2.bnd)
    (hn : p.commitments.length < 2 ^ 64) (hm : p.message.length < 2 ^ 64) :
    RT (encPackage S hdr) (decPackage S hdr) p :=
  Wire.rt_package L p hids (ofList_sorted S.idLt hasym _ hsorted) hn hm

theorem rt_secretShare (L : BaseLaws S.toBase okS okE) (s : SecretShare F E) (hid : s.id ≠ 0)
    (hok : okS s.id ∧ okS s.share ∧ ∀ e ∈ s.commitment, okE e) (hn : s.commitment.length < 2 ^ 64) :
    RT (encSecretShare S hdr) (decSecretShare S hdr) s := Wire.rt_secretShare L s hid hok hn

theorem rt_keyPackage (L : BaseLaws S.toBase okS okE) (k : KeyPackage F E) (hid : k.id ≠ 0)
    (hok : okS k.id ∧ okS k.share ∧ okE k.vshare ∧ okE k.vk) :
    RT (encKeyPackage S hdr) (decKeyPackage S hdr) k := Wire.rt_keyPackage L k hid hok

/-- public key package, with or without the threshold (the pre-3.0 form): the encoding is
    decoded to the value with nothing left over -/
theorem rt_publicKeyPackage (L : BaseLaws S.toBase okS okE) (p : PublicKeyPackage F E)
    (hasym : ∀ a b, S.idLt a b = true → S.idLt b a = false)
    (hsorted : p.vshares.Pairwise (fun a b => S.idLt a.1 b.1 = true))
    (hids : ∀ kv ∈ p.vshares, okS kv.1 ∧ kv.1 ≠ 0 ∧ okE kv.2) (hvk : okE p.vk)
    (hn : p.vshares.length < 2 ^ 64) (b : Bytes) (h : encPublicKeyPackage S hdr p = some b) :
    deserialize (decPublicKeyPackage S hdr) b = some p := by
  unfold deserialize
  rw [Wire.rt_publicKeyPackage L p hids hvk (ofList_sorted S.idLt hasym _ hsorted) hn b h]

theorem rt_round1Package (L : BaseLaws S.toBase okS okE) (p : Round1Package F E)
    (hok : ∀ e ∈ p.commitment, okE e) (hn : p.commitment.length < 2 ^ 64) (hs : SigLaws S p.pok) :
    RT (encRound1Package S hdr) (decRound1Package S hdr) p := Wire.rt_round1Package L p hok hn hs

theorem rt_round2Package (L : BaseLaws S.toBase okS okE) (s : F) (hs : okS s) :
    RT (encRound2Package S hdr) (decRound2Package S hdr) s := Wire.rt_round2Package L s hs

theorem rt_round1Secret (L : BaseLaws S.toBase okS okE) (p : Round1Secret F E) (hid : p.id ≠ 0)
    (hok : okS p.id ∧ (∀ s ∈ p.coefficients, okS s) ∧ ∀ e ∈ p.commitment, okE e)
    (hn : p.coefficients.length < 2 ^ 64) (hn' : p.commitment.length < 2 ^ 64) :
    RT (encRound1Secret S) (decRound1Secret S) p := Wire.rt_round1Secret L p hid hok hn hn'

theorem rt_round2Secret (L : BaseLaws S.toBase okS okE) (p : Round2Secret F E) (hid : p.id ≠ 0)
    (hok : okS p.id ∧ okS p.secretShare ∧ ∀ e ∈ p.commitment, okE e)
    (hn : p.commitment.length < 2 ^ 64) :
    RT (encRound2Secret S) (decRound2Secret S) p := Wire.rt_round2Secret L p hid hok hn

/-- the proof-of-knowledge inside a round-one package: the default signature codec
    (`enc R ‖ enc z`) satisfies the law the container theorem asks for -/
theorem default_signature_laws (B : Base F E) (L : BaseLaws B okS okE) (g : Bytes)
    (hG : B.encElem B.G = some g) (hsz : B.elemLen + B.scalarLen < 2 ^ 64)
    (sg : Signature F E) (hR : okE sg.R) (hz : okS sg.z) :
    ∀ b, B.defaultSerializeSignature sg = .ok b →
      B.defaultDeserializeSignature b = .ok sg ∧ b.length < 2 ^ 64 := by
  intro b hb
  refine ⟨defaultSig_rt L g hG sg hR hz b hb, ?_⟩
  obtain ⟨r, hr, rfl⟩ := defaultSerializeSignature_eq_ok.1 hb
  rw [List.length_append, L.elem_len _ _ hr, L.scalar_len]
  exact hsz

end roundtrip

/-- **a sorted map survives the decoder's rebuild** -/
theorem ofList_sorted {K V : Type} [DecidableEq K] (lt : K → K → Bool)
    (hasym : ∀ a b, lt a b = true → lt b a = false) (m : List (K × V))
    (hs : m.Pairwise (fun a b => lt a.1 b.1 = true)) : SMap.ofList lt m = m :=
  Wire.ofList_sorted lt hasym m hs

section prim
variable {F E : Type} [Zero F] [DecidableEq F] {B : Base F E} {okS : F → Prop} {okE : E → Prop}

/-- **A scalar decoder (`SigningShare`, `Nonce`, `SignatureShare`, repair `Delta`/`Sigma`,
    `Randomizer`, …) accepts a byte string only if re-encoding the result reproduces it.** -/
theorem primScalar_canonical (C : BaseCanon B) (b : Bytes) (s : F) (h : primScalar B b = .ok s) :
    B.encScalar s = b := Wire.primScalar_canonical C b s h

/-- **An element decoder (`VerifyingKey`, `VerifyingShare`, `NonceCommitment`,
    `CoefficientCommitment`) accepts a byte string only if re-encoding reproduces it.** -/
theorem primElem_canonical (C : BaseCanon B) (b : Bytes) (e : E) (h : primElem B b = .ok e) :
    B.encElem e = some b := Wire.primElem_canonical C b e h

/-- hence no two byte strings denote the same value -/
theorem primScalar_injective (C : BaseCanon B) (b b' : Bytes) (s : F)
    (h : primScalar B b = .ok s) (h' : primScalar B b' = .ok s) : b = b' := by
  rw [← primScalar_canonical C b s h, ← primScalar_canonical C b' s h']

theorem primElem_injective (C : BaseCanon B) (b b' : Bytes) (e : E)
    (h : primElem B b = .ok e) (h' : primElem B b' = .ok e) : b = b' :=
  Option.some.inj ((primElem_canonical C b e h).symm.trans (primElem_canonical C b' e h'))

/-- **signatures (`enc R ‖ enc z`) are canonical** and of exact length -/
theorem signature_canonical (L : BaseLaws B okS okE) (C : BaseCanon B) (g : Bytes)
    (hG : B.encElem B.G = some g) (bytes : Bytes) (sg : Signature F E)
    (h : B.defaultDeserializeSignature bytes = .ok sg) :
    B.defaultSerializeSignature sg = .ok bytes := defaultSig_canonical (L.sigLens hG) C h

theorem signature_wrong_length (L : BaseLaws B okS okE) (g : Bytes) (hG : B.encElem B.G = some g)
    (bytes : Bytes) (hl : bytes.length ≠ B.elemLen + B.scalarLen) :
    B.defaultDeserializeSignature bytes = .error .MalformedSignature :=
  defaultSig_wrong_length (L.sigLens hG) hl

/-- **a zero identifier is rejected** (`FieldError::InvalidZeroScalar`) -/
theorem identifier_rejects_zero (b : Bytes) :
    primNonzeroScalar B .FieldInvalidZeroScalar b ≠ .ok 0 :=
  fun h => (primNonzero_ne_zero h).1 rfl

/-- **a zero signing key is rejected** (`Error::MalformedSigningKey`) -/
theorem signingKey_rejects_zero (b : Bytes) :
    primNonzeroScalar B .MalformedSigningKey b ≠ .ok 0 :=
  fun h => (primNonzero_ne_zero h).1 rfl

/-- **a wrong length is rejected** before the ciphersuite decoder is consulted -/
theorem prim_wrong_length (b : Bytes) :
    (b.length ≠ B.scalarLen → primScalar B b = .error .FieldMalformedScalar) ∧
    (b.length ≠ B.elemLen → primElem B b = .error .FieldMalformedScalar) :=
  ⟨fun h => if_pos h, fun h => if_pos h⟩

end prim

open Frost.Ref

/-- **little-endian scalars** (Ed25519, ristretto255: 32 bytes; Ed448: 57 bytes, so its 57th
    byte has to be zero): round trip of reduced values, canonicity, everything at or above the
    group order and every other length rejected -/
theorem fq_laws_le (q len : Nat) (hq : q ≤ 256 ^ len) :
    (∀ s : Fq q, s.val < q → decLE q len (natToLE s.val len) = some s) ∧
    (∀ b (s : Fq q), decLE q len b = some s → natToLE s.val len = b ∧ s.val < q ∧ b.length = len) ∧
    (∀ b, q ≤ leToNat b → decLE q len b = none) ∧
    (∀ b, b.length ≠ len → decLE q len b = none) :=
  ⟨decLE_enc q len hq, decLE_canonical q len, decLE_out_of_range q len, decLE_wrong_length q len⟩

/-- **big-endian scalars** (P-256, secp256k1, Taproot) -/
theorem fq_laws_be (q len : Nat) (hq : q ≤ 256 ^ len) :
    (∀ s : Fq q, s.val < q → decBE q len (natToBE s.val len) = some s) ∧
    (∀ b (s : Fq q), decBE q len b = some s → natToBE s.val len = b ∧ s.val < q ∧ b.length = len) ∧
    (∀ b, q ≤ beToNat b → decBE q len b = none) ∧
    (∀ b, b.length ≠ len → decBE q len b = none) :=
  ⟨decBE_enc q len hq, decBE_canonical q len, decBE_out_of_range q len, decBE_wrong_length q len⟩

/-- the Ed448 consequence spelled out: a 57-byte string with a non-zero last byte is not a
    scalar (its value is at least 2^448 > q) -/
theorem ed448_scalar_last_byte (b : Bytes) (hl : b.length = 57) (h : b.getLast? ≠ some 0) :
    decLE ed448.n 57 b = none :=
  decLE_last_byte ed448.n 56 (by decide) b hl h

/-- **SEC1: only the compressed tags 02 and 03 are accepted** (not the "compact" tag 05, the
    uncompressed 04 or the identity 00), and only 33 bytes -/
theorem sec1_tag (c : WeiCurve) (b : Bytes) (P : WPoint) (h : c.dec b = some P) :
    b.length = 33 ∧ (b.head? = some 2 ∨ b.head? = some 3) := Frost.Ref.sec1_tag c b P h

/-- **SEC1 points are canonical** -/
theorem sec1_canonical (c : WeiCurve) (hp : c.p % 2 = 1) (b : Bytes) (P : WPoint)
    (h : c.dec b = some P) : c.enc P = some b := wei_dec_canonical c hp b P h

/-- codec canonicity holds for the P-256 / secp256k1 / Taproot and Ed448 reference suites… -/
theorem p256_canon : BaseCanon (weiBase p256 "FROST-P256-SHA256-v1") := wei_canon _ _ (by decide)
theorem secp256k1_canon : BaseCanon (weiBase secp256k1 "FROST-secp256k1-SHA256-v1") := wei_canon _ _ (by decide)
theorem ed448_canon : BaseCanon ed448Base :=
  ⟨fun b s _ h => (decLE_canonical ed448.n 57 b s h).1, fun b e _ h => ed448_dec_canonical b e h⟩

/-- …and for Ed25519, whose decoder has NO explicit canonicity test (it relies on every
    non-canonical encoding being undecodable, the identity or of non-prime order): an accepted
    32-byte string is the encoding of the decoded point (proof: Frost.Proofs.Ed25519Canon) -/
theorem ed25519_canon : BaseCanon ed25519Base := Frost.Ref.ed25519_canon

theorem ed25519_noncanonical_rejected :
    (List.range 19).all (fun k => (List.range 2).all fun s =>
      Frost.Ref.rejects25519 (Frost.Ref.natToLE (Frost.Ref.p25 + k + s * 2 ^ 255) 32)) = true :=
  Frost.Ref.noncanonical_y_rejected

theorem p25519_prime : Nat.Prime (2 ^ 255 - 19) := Frost.Ref.p25519_prime

/-- …and the toy suite satisfies every law, so the round-trip theorems are not vacuous -/
theorem toy31_instance : BaseLaws toy31.toBase okS31 okE31 ∧ BaseCanon toy31.toBase :=
  ⟨toy31_laws, toy31_canon⟩

example : RT (encKeyPackage toy31 [0, 1, 2, 3, 4]) (decKeyPackage toy31 [0, 1, 2, 3, 4])
    (⟨⟨5⟩, ⟨77⟩, ⟨12⟩, ⟨99⟩, 3⟩ : KeyPackage (Fq q31) (Gq q31)) :=
  rt_keyPackage toy31_laws _ (by decide)
    ⟨by unfold okS31; decide, by unfold okS31; decide, by unfold okE31; decide, by unfold okE31; decide⟩

example : encU16 300 = some [172, 2] ∧ decU16 [172, 2, 9] = some (300, [9]) := by decide
example : decU16 [0x80, 0x00, 7] = some (0, [7]) := by decide      -- non-minimal varints are accepted …
example : decU16 [0xff, 0xff, 0x04] = none := by decide            -- … values that do not fit are not
example : decMinSigners [2, 5] = (none, [2, 5]) := by decide       -- lenient trailing field
example : decHeader [0, 1, 2, 3, 4] [1, 1, 2, 3, 4, 9] = none := by decide

end Frost.C12

namespace Frost.C12
open Frost

section taproot
variable {F E : Type}
variable [Add F] [Mul F] [Sub F] [Neg F] [Zero F] [One F] [Inv F] [DecidableEq F]
variable [Add E] [Sub E] [Neg E] [Zero E] [SMul F E] [DecidableEq E]

/-- the Taproot signature is 64 bytes (x-only `R`): **any other length is rejected** (in
    particular the 65 bytes of the default `element ‖ scalar` layout) -/
theorem taproot_signature_wrong_length (B : Base F E) (P : TrParams F E) (bytes : Bytes)
    (h : bytes.length ≠ 64) :
    (Suite.taproot B P).deserializeSignature bytes = .error .MalformedSignature :=
  if_pos h

/-- **an accepted 64-byte string is the encoding of the decoded signature** (given canonical
    element and scalar codecs of 33 and 32 bytes: `secp256k1_canon`) -/
theorem taproot_signature_canonical (B : Base F E) (P : TrParams F E) (C : Wire.BaseCanon B)
    (hE : B.elemLen = 33) (hS : B.scalarLen = 32) (bytes : Bytes) (sg : Signature F E)
    (h : (Suite.taproot B P).deserializeSignature bytes = .ok sg) :
    (Suite.taproot B P).serializeSignature sg = .ok bytes := by
  simp only [Suite.taproot] at h ⊢
  by_cases hlen : bytes.length = 64
  · obtain ⟨h1, -, h3⟩ := Wire.take_drop_split (n := 32) (m := 32) hlen
    rw [if_neg (not_not.2 hlen)] at h
    split at h
    · cases h
    · rename_i R hR
      split at h
      · cases h
      · rename_i z hz
        cases h
        simp only [Base.encElemO, C.elem _ R (by rw [List.length_cons, h1, hE]) hR, Outcome.ofOption,
          C.scalar _ z (h3.trans hS.symm) hz, List.drop_one, List.tail_cons, List.take_append_drop]
  · rw [if_pos hlen] at h; cases h
end taproot

/-! The self-describing form (encoder only): `Frost.Model.Json` is the JSON text `serde_json`
  writes for every wire type; it is compared byte-for-byte with the real output on every run.
  A value that cannot be encoded in binary (an identity element) cannot be encoded in JSON
  either. -/

theorem json_keyPackage_none_iff {F E : Type} (S : Suite F E) (k : KeyPackage F E) :
    Json.keyPackage S k = none ↔ S.encElem k.vshare = none ∨ S.encElem k.vk = none := by
  unfold Json.keyPackage Json.elem
  cases h1 : S.encElem k.vshare <;> cases h2 : S.encElem k.vk <;> simp

theorem json_commitments_none_iff {F E : Type} (S : Suite F E) (c : SigningCommitments E) :
    Json.commitments S c = none ↔ S.encElem c.hid = none ∨ S.encElem c.bnd = none := by
  unfold Json.commitments Json.elem
  cases h1 : S.encElem c.hid <;> cases h2 : S.encElem c.bnd <;> simp

end Frost.C12
